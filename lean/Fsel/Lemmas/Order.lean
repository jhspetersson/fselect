/-
  Total preorders, the notion both sort orders are measured against, and the one lexicographic argument they share.
  `TotalPreorder` is about a `Bool`-valued `≤` (`Criteria::cmp` as the key order of `TopN`, `Lemmas/Criteria`);
  `CellL.IsOrd` (`Lemmas/CellOrder`) about an `Ordering`-valued comparison.  One step of a lexicographic order — the
  heads decide unless they tie, then the rest does — is `le a b && (!le b a || rest)` for the first
  (`lexStep_iff`) and `lex2` for the second (`CellL.lex2_ne_gt`); `lex_trans` is its transitivity for both.
-/

namespace Fsel
namespace TopNL

variable {K : Type}

structure TotalPreorder (le : K → K → Bool) : Prop where
  refl : ∀ a, le a a = true
  trans : ∀ a b c, le a b = true → le b c = true → le a c = true
  total : ∀ a b, le a b = true ∨ le b a = true

theorem TotalPreorder.flip {le : K → K → Bool} (h : TotalPreorder le) : TotalPreorder (fun a b => le b a) :=
  ⟨h.refl, fun a b c hab hbc => h.trans c b a hbc hab, fun a b => h.total b a⟩

/-- `a < b` is written `le a b = true ∧ le b a = false` -/
theorem TotalPreorder.lt_of_lt_of_le {le : K → K → Bool} (h : TotalPreorder le) {a b c : K}
    (hab : le a b = true ∧ le b a = false) (hbc : le b c = true) : le a c = true ∧ le c a = false :=
  ⟨h.trans _ _ _ hab.1 hbc, Bool.eq_false_iff.mpr fun hca => Bool.eq_false_iff.mp hab.2 (h.trans _ _ _ hbc hca)⟩

theorem TotalPreorder.lt_of_le_of_lt {le : K → K → Bool} (h : TotalPreorder le) {a b c : K}
    (hab : le a b = true) (hbc : le b c = true ∧ le c b = false) : le a c = true ∧ le c a = false :=
  ⟨h.trans _ _ _ hab hbc.1, Bool.eq_false_iff.mpr fun hca => Bool.eq_false_iff.mp hbc.2 (h.trans _ _ _ hca hab)⟩

end TopNL

namespace CriteriaL

theorem lex_total {K : Type} {le : K → K → Bool} (ht : ∀ x y, le x y = true ∨ le y x = true) (a b : K) {r r' : Bool}
    (h : r = true ∨ r' = true) : (le a b && (!le b a || r)) = true ∨ (le b a && (!le a b || r')) = true := by
  have := ht a b
  cases hab : le a b <;> cases hba : le b a <;> simp_all

/-- the step read as a proposition: `a ≤ b`, and the rest wherever `b ≤ a` as well -/
theorem lexStep_iff (p q r : Bool) : (p && (!q || r)) = true ↔ p = true ∧ (q = true → r = true) := by
  cases p <;> cases q <;> cases r <;> decide

/-- the lexicographic argument, for a relation and a rest of any kind (a `Bool`-valued `≤` reads it through
    `lexStep_iff`, an `Ordering`-valued comparison through `CellL.lex2_ne_gt`): `c ≤ a` closes the cycle, so all three
    heads are tied and both hypotheses speak of the rests -/
theorem lex_trans {K : Type} {le : K → K → Prop} (htr : ∀ x y z, le x y → le y z → le x z) (a b c : K)
    {r1 r2 r3 : Prop} (h : r1 → r2 → r3) (h1 : le a b ∧ (le b a → r1)) (h2 : le b c ∧ (le c b → r2)) :
    le a c ∧ (le c a → r3) :=
  ⟨htr _ _ _ h1.1 h2.1, fun hca => h (h1.2 (htr _ _ _ h2.1 hca)) (h2.2 (htr _ _ _ hca h1.1))⟩

end CriteriaL
end Fsel
