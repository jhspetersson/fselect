/-
  `searchRoot` on a directory and `searchRoots` on plain roots, under any plan: each follows `foldLim` over its own
  events.  The definitions in namespace `C01`/`C06` are the vocabulary the statements of `Props/` are written in.
-/
import Fsel.Lemmas.WalkD
import Fsel.Lemmas.WalkLevel
import Fsel.Lemmas.WalkLimB
import Fsel.Model.Main

namespace Fsel
namespace C01
open WalkL WalkB

/-- the root directory as the first queue item -/
def rootItem (path canon : Str) (kids : List Node) : QItem := ⟨kids, true, path, canon⟩

/-- `visit_dir(root)` followed by the queue loop, as `searchRoot` runs them -/
def bfsRoot (p : Plan) (rp : RootParams) (path canon : Str) (kids : List Node) (st : WSt) : Except Abort WSt :=
  match visitDirB p rp (rootItem path canon kids) st with
  | .error a => .error a
  | .ok st' => drainQueue p rp (Node.countDirsList kids + 1) st'

/-- a search root that resolves to a listable directory -/
structure RootRec where
  root : Root
  e : Entry
  kids : List Node
  canon : Str

def RootRec.rp (r : RootRec) : RootParams := rootParams r.root r.canon

/-- what one root reports: level order (bfs, the default) or pre-order (dfs) -/
def RootRec.events (r : RootRec) : List (Node × Entry × Nat) :=
  if r.rp.bfs then levelOrder r.rp [rootItem r.root.path r.canon r.kids]
  else eventsL r.rp r.root.path r.canon 1 r.kids

/-- the inode numbers a root can record: the root directory itself, its sub-directories and links -/
def RootRec.inos (r : RootRec) : List Nat := r.e.ino :: inodesL r.kids

/-- a plain root: no `regexp`, `symlinks` or ignore option in force, resolving to a listable directory -/
def PlainRoot (p : Plan) (fs : FSnap) (r : RootRec) : Prop :=
  r.root.options.regexp = false ∧ r.root.options.symlinks = false ∧
  ignoreApplies r.root.options.gitignore p.cfg.gitignore = false ∧
  ignoreApplies r.root.options.hgignore p.cfg.hgignore = false ∧
  ignoreApplies r.root.options.dockerignore p.cfg.dockerignore = false ∧
  resolveRoot fs r.root.path = .ok (.dir r.e true r.kids r.canon) ∧
  goodL r.kids ∧ 1 < r.canon.length

/-- the roots one after the other, each reporting its own events with its own depth window -/
def foldRoots (p : Plan) : ResSt → List RootRec → Except Abort ResSt
  | rs, [] => .ok rs
  | rs, r :: t =>
    match foldReport p r.rp rs r.events with
    | .error a => .error a
    | .ok rs' => foldRoots p rs' t

end C01

namespace C06
open WalkLim

/-- the roots one after the other under any plan: each reports its own events until the limit is reached -/
def foldRootsLim (p : Plan) : ResSt → List C01.RootRec → Except Abort ResSt
  | rs, [] => .ok rs
  | rs, r :: t =>
    match foldLim p rs (checksL p r.rp r.events) with
    | .error a => .error a
    | .ok rs' => foldRootsLim p rs' t

end C06

namespace WalkRoot
open WalkL WalkB WalkLim WalkLimB C01

/-- one more round of fuel than `bfsRoot` gives the loop: in it the root item is popped again -/
theorem bfsRoot_eq_drain (p : Plan) (rp : RootParams) (path canon : Str) (kids : List Node) (st : WSt)
    (hq : st.walk.queue = []) :
    bfsRoot p rp path canon kids st =
      drainQueue p rp (Node.countDirsList kids + 1 + 1)
        { st with walk := { st.walk with queue := [rootItem path canon kids] } } := by
  obtain ⟨res, walk⟩ := st
  obtain ⟨visited, errPaths, errCount, queue, fresh, visitedDirs⟩ := walk
  subst hq
  rfl

theorem bfs_root_any (p : Plan) (rp : RootParams) (path canon : Str) (kids : List Node) (st : WSt)
    (hq : st.walk.queue = []) (hg : goodL kids) (hfr : Fresh st.walk.visited (inodesL kids)) :
    Follows (foldLim p st.res (checksL p rp (levelOrder rp [rootItem path canon kids]))) (bfsRoot p rp path canon kids st)
      fun rs' w' => limitReached p rs' = false →
        w'.errPaths = st.walk.errPaths ++ levelFaults rp [rootItem path canon kids] ∧
        w'.errCount = st.walk.errCount + (levelFaults rp [rootItem path canon kids]).length ∧
        WalkSub st.walk w' (inodesL kids) := by
  rw [bfsRoot_eq_drain p rp path canon kids st hq]
  have hsz : qSize [rootItem path canon kids] ≤ Node.countDirsList kids + 1 + 1 := by
    rw [qSize_cons, qSize_nil]; simp only [rootItem]; omega
  obtain ⟨he, hf⟩ := bfsEvents_enough rp _ _ hsz
  have hqi : qInos [rootItem path canon kids] = inodesL kids := by simp [qInos, rootItem]
  have h := drain_any p rp (Node.countDirsList kids + 1 + 1)
    { st with walk := { st.walk with queue := [rootItem path canon kids] } }
    (by intro it hit; simp only [List.mem_singleton] at hit; subst hit; exact hg) (hqi ▸ hfr)
  simp only [he, hf, hqi] at h
  exact h

theorem rootItem_wf (rp : RootParams) (path canon : Str) (kids : List Node)
    (hroot : 1 < canon.length) (hbase : rp.base = calcDepth canon) (hg : goodL kids) :
    QWf rp [rootItem path canon kids] ∧ itemDepth rp (rootItem path canon kids) = 1 := by
  refine ⟨fun it hit => ?_, by simp [itemDepth, rootItem, hbase]⟩
  rw [List.mem_singleton.mp hit]
  exact ⟨hg, hroot, by simp [rootItem, hbase]⟩

theorem rootItem_perm (rp : RootParams) (path canon : Str) (kids : List Node)
    (hroot : 1 < canon.length) (hbase : rp.base = calcDepth canon) (hg : goodL kids) :
    (levelOrder rp [rootItem path canon kids]).Perm (eventsL rp path canon 1 kids) ∧
    (levelFaults rp [rootItem path canon kids]).Perm (faultsL rp path canon 1 kids) := by
  obtain ⟨hw, hd⟩ := rootItem_wf rp path canon kids hroot hbase hg
  have h := level_perm rp _ hw
  simp only [List.flatMap_cons, List.flatMap_nil, List.append_nil, subtree, subFaults, hd] at h
  exact h

theorem searchRoot_dir (p : Plan) (root : Root) (e : Entry) (kids : List Node) (canon : Str) (st : WSt) :
    searchRoot p root (.dir e true kids canon) st =
      if (rootParams root canon).bfs then
        bfsRoot p (rootParams root canon) root.path canon kids { st with walk := markVisited { st.walk with queue := [] } e.ino }
      else
        visitDirD p (rootParams root canon) root.path canon true kids { st with walk := markVisited { st.walk with queue := [] } e.ino } := by
  simp only [searchRoot, bfsRoot, rootItem]
  split <;> rfl

theorem searchRoot_reached (p : Plan) (root : Root) (e : Entry) (kids : List Node) (canon : Str) (st : WSt)
    (h : limitReached p st.res = true) :
    ∃ w', searchRoot p root (.dir e true kids canon) st = .ok { res := st.res, walk := w' } := by
  rw [searchRoot_dir]
  split
  · obtain ⟨w1, h1⟩ := visitDirB_reached p (rootParams root canon) (rootItem root.path canon kids)
      { st with walk := markVisited { st.walk with queue := [] } e.ino } h
    simp only [bfsRoot, h1]
    exact drain_reached p _ _ _ h
  · exact visitDirD_reached p _ _ _ _ _ { st with walk := markVisited { st.walk with queue := [] } e.ino } h

theorem sub_root {vis ins : List Nat} {i j : Nat} (h : j ∈ vis ++ [i] ∨ j ∈ ins) : j ∈ vis ∨ j ∈ i :: ins := by
  simpa [or_assoc] using h

/-- the inode numbers have to be fresh only while the limit is not reached: after it nothing is looked at any more -/
theorem searchRoot_any (p : Plan) (root : Root) (e : Entry) (kids : List Node) (canon : Str) (st : WSt)
    (hfr : limitReached p st.res = false → Fresh st.walk.visited (e.ino :: inodesL kids))
    (hg : goodL kids) (hroot : 1 < canon.length) :
    Follows (foldLim p st.res (checksL p (rootParams root canon)
        (if (rootParams root canon).bfs then levelOrder (rootParams root canon) [rootItem root.path canon kids]
         else eventsL (rootParams root canon) root.path canon 1 kids)))
      (searchRoot p root (.dir e true kids canon) st)
      fun rs' w' => limitReached p rs' = false → WalkSub st.walk w' (e.ino :: inodesL kids) := by
  by_cases hl : limitReached p st.res = true
  · exact Follows.reached hl (searchRoot_reached p root e kids canon st hl)
  obtain ⟨hino, hfk⟩ := (hfr (by simpa using hl)).cons
  rw [searchRoot_dir, markVisited_fresh { st.walk with queue := [] } e.ino hino]
  by_cases hb : (rootParams root canon).bfs = true
  · simp only [hb, if_true]
    exact (bfs_root_any p (rootParams root canon) root.path canon kids
        { st with walk := { st.walk with queue := [], visited := st.walk.visited ++ [e.ino] } } rfl hg hfk).imp
      fun _ _ _ h4 hnr i hi => sub_root ((h4 hnr).2.2 i hi)
  · simp only [hb, Bool.false_eq_true, if_false]
    exact (dfs_root_any p (rootParams root canon) root.path canon kids
        { st with walk := { st.walk with queue := [], visited := st.walk.visited ++ [e.ino] } } hroot
        (by simp [rootParams]) hg hfk).imp fun _ _ _ ⟨_, hw, _⟩ _ i hi => sub_root (hw.sub i hi)

theorem searchRoots_plain (p : Plan) (fs : FSnap) (multi : Bool) (r : RootRec) (t : List Root) (st : WSt)
    (h : PlainRoot p fs r) :
    searchRoots p fs multi (r.root :: t) st =
      match searchRoot p r.root (.dir r.e true r.kids r.canon) st with
      | .error a => .error a
      | .ok st' => searchRoots p fs multi t st' := by
  obtain ⟨h1, h2, h3, h4, h5, h6, _, _⟩ := h
  simp only [searchRoots, h1, h2, h3, h4, h5, h6, Bool.false_eq_true, if_false, Bool.or_self]
  rfl

theorem roots_any (p : Plan) (fs : FSnap) (multi : Bool) :
    ∀ (recs : List RootRec) (st : WSt), (∀ r ∈ recs, PlainRoot p fs r) →
      (limitReached p st.res = false → Fresh st.walk.visited (recs.flatMap RootRec.inos)) →
      Follows (foldLim p st.res (recs.flatMap fun r => checksL p r.rp r.events))
        (searchRoots p fs multi (recs.map (·.root)) st) fun _ _ => True
  | [], st, _, _ => ⟨st.walk, rfl, trivial⟩
  | r :: t, st, hp, hfr => by
    have hpr := hp r (by simp)
    rw [List.map_cons, searchRoots_plain p fs multi r _ st hpr, List.flatMap_cons]
    obtain ⟨_, _, _, _, _, _, hg, hroot⟩ := hpr
    -- `searchRoot_any` spells the events of the root out; they are `r.events` by unfolding `RootRec.events`, `RootRec.rp`
    refine Follows.seq (searchRoot_any p r.root r.e r.kids r.canon st (fun h => (hfr h).append.1)
      hg hroot) fun rs1 w1 h1 hv1 => ?_
    exact roots_any p fs multi t { res := rs1, walk := w1 } (fun x hx => hp x (by simp [hx]))
      fun hr => ((hfr (foldLim_unreached h1 hr)).append.2 w1.visited (hv1 hr))

theorem foldRootsLim_flat (p : Plan) (recs : List RootRec) (rs : ResSt) :
    C06.foldRootsLim p rs recs = foldLim p rs (recs.flatMap fun r => checksL p r.rp r.events) := by
  induction recs generalizing rs with
  | nil => rfl
  | cons r t ih =>
    simp only [C06.foldRootsLim, List.flatMap_cons, foldLim_append]
    cases foldLim p rs (checksL p r.rp r.events) with
    | error a => rfl
    | ok rs' => exact ih rs'

theorem foldRoots_eq_lim (p : Plan) (hl : NoLimit p) : ∀ (recs : List RootRec) (rs : ResSt),
    foldRoots p rs recs = C06.foldRootsLim p rs recs
  | [], _ => rfl
  | r :: t, rs => by
    simp only [foldRoots, C06.foldRootsLim, foldReport_eq_foldLim p r.rp hl]
    cases foldLim p rs (checksL p r.rp r.events) with
    | error a => rfl
    | ok rs' => exact foldRoots_eq_lim p hl t rs'

end WalkRoot
end Fsel
