/-
  Bit-level facts about the generated `mode_*` predicates (mode.rs): each single permission predicate is one
  bit of the mode (the three `*_all` predicates are conjunctions of these), each file-type predicate a value of the type nibble (bits 12..15).  Both are
  instances of `and_mask`.
-/
import Fsel.Gen.Tables

namespace Fsel
namespace ModeL

theorem and_mask (m a b : Nat) : m &&& (2^b - 1) * 2^a = m / 2^a % 2^b * 2^a := by
  apply Nat.eq_of_testBit_eq
  intro i
  rw [Nat.testBit_and, Nat.testBit_mul_two_pow, Nat.testBit_two_pow_sub_one, Nat.testBit_mul_two_pow,
      Nat.testBit_mod_two_pow, Nat.testBit_div_two_pow]
  by_cases h : a ≤ i
  · rw [Nat.sub_add_cancel h, Bool.and_comm, Bool.and_assoc]
  · rw [decide_eq_false h, Bool.false_and, Bool.false_and, Bool.and_false]

theorem mul_beq (t c k : Nat) (hk : 0 < k) : (t * k == c * k) = (t == c) := by
  rw [Bool.eq_iff_iff, beq_iff_eq, beq_iff_eq]; exact Nat.mul_left_inj (Nat.ne_of_gt hk)

/-- the shape of every generated permission predicate: `mode & S_Ixxx == S_Ixxx` with `S_Ixxx = 2^k` -/
theorem and_two_pow_beq (m k : Nat) : (m &&& 2^k == 2^k) = m.testBit k := by
  have h := and_mask m k 1
  rw [show 2 ^ 1 - 1 = 1 from rfl, Nat.one_mul, Nat.pow_one] at h
  rw [h, Nat.testBit_eq_decide_div_mod_eq]
  have := mul_beq (m / 2^k % 2) 1 _ (Nat.two_pow_pos k)
  rwa [Nat.one_mul] at this

def nibble (m : Nat) : Nat := m / 4096 % 16

theorem nibble_lt (m : Nat) : nibble m < 16 := Nat.mod_lt _ (by decide)

/-- the shape of every generated file-type predicate: `S_IFMT = 15 * 2^12` and `S_IFxxx = c * 2^12` -/
theorem type_eq (m c : Nat) : (m &&& S_IFMT == c * 4096) = (nibble m == c) :=
  (congrArg (· == c * 2^12) (and_mask m 12 4)).trans (mul_beq _ c _ (by decide))

theorem is_pipe_nibble (m : Nat) : mode_is_pipe m = (nibble m == 1) := type_eq m 1
theorem is_char_nibble (m : Nat) : mode_is_char_device m = (nibble m == 2) := type_eq m 2
theorem is_dir_nibble (m : Nat) : mode_is_directory m = (nibble m == 4) := type_eq m 4
theorem is_block_nibble (m : Nat) : mode_is_block_device m = (nibble m == 6) := type_eq m 6
theorem is_link_nibble (m : Nat) : mode_is_link m = (nibble m == 10) := type_eq m 10
theorem is_socket_nibble (m : Nat) : mode_is_socket m = (nibble m == 12) := type_eq m 12

theorem user_read_bit (m : Nat) : mode_user_read m = m.testBit 8 := and_two_pow_beq m 8
theorem user_write_bit (m : Nat) : mode_user_write m = m.testBit 7 := and_two_pow_beq m 7
theorem user_exec_bit (m : Nat) : mode_user_exec m = m.testBit 6 := and_two_pow_beq m 6
theorem group_read_bit (m : Nat) : mode_group_read m = m.testBit 5 := and_two_pow_beq m 5
theorem group_write_bit (m : Nat) : mode_group_write m = m.testBit 4 := and_two_pow_beq m 4
theorem group_exec_bit (m : Nat) : mode_group_exec m = m.testBit 3 := and_two_pow_beq m 3
theorem other_read_bit (m : Nat) : mode_other_read m = m.testBit 2 := and_two_pow_beq m 2
theorem other_write_bit (m : Nat) : mode_other_write m = m.testBit 1 := and_two_pow_beq m 1
theorem other_exec_bit (m : Nat) : mode_other_exec m = m.testBit 0 := and_two_pow_beq m 0
theorem suid_bit (m : Nat) : mode_suid m = m.testBit 11 := and_two_pow_beq m 11
theorem sgid_bit (m : Nat) : mode_sgid m = m.testBit 10 := and_two_pow_beq m 10
theorem sticky_bit (m : Nat) : mode_sticky m = m.testBit 9 := and_two_pow_beq m 9

end ModeL
end Fsel
