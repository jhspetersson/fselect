/-
  C05  ORDER BY output is sorted by the requested keys and loses or invents no row.

  Model: buffered rows are inserted into `TopN<Criteria, String>` (echelon layer = BTreeMap of
  vectors) in arrival order; the ordered result is `values()`.
  Idea: the echelon layer refines stable insertion into one list (`Lemmas/TopN`), under the total preorder that
  `Criteria::cmp` is (`Lemmas/Criteria`); sortedness, permutation and stability are read off the list.  The theorems
  hold of every insertion history (any number of rows, any keys, any key list / direction vector); further:
  * `order_by_parse_correct` — `parse_order_by` reads the key list as written: every key (an expression of the
    proved grammar, or a position in the select list), in order, each with its own direction (`desc` after it or
    not), commas optional — no key is dropped, merged or given another key's direction;
  * `repeated_key_irrelevant` — listing a key a second time, in whatever direction, never changes the
    comparison: the first mention decides;
  * `arith_key_is_numeric`, `date_part_keys_are_numeric` — arithmetic expressions and the date parts DAY, MONTH,
    YEAR, DAYOFWEEK are compared as numbers (D76, D75).
  Not theorems: that the buffered rows of an ORDER BY query are the rows of the same
  query without ORDER BY (walker-level simulation; covered by the CLI correspondence and the oracle
  "permutation of the unordered run"), and that a key need not be selected (evaluated per row like a column;
  checked by correspondence).
-/
import Fsel.Lemmas.Criteria
import Fsel.Lemmas.ParseOrder
import Fsel.Model.Walk

namespace Fsel.C05
open Fsel TopNL CriteriaL

/-- the comparison used to order result rows is a total preorder for every key list and directions -/
theorem criteria_total_preorder (today : Int) (kinds : List KeyKind) (asc : List Bool) :
    TotalPreorder (criteriaLe today kinds asc) :=
  CriteriaL.criteria_total_preorder today kinds asc

variable {K V : Type}

/-- the echelon layer refines stable insertion: after any history, under any limit, the flattened BTreeMap is the
    list the abstract insertions build, and the invariant holds -/
theorem insertAll_refines (le : K → K → Bool) (hp : TotalPreorder le) (n : Nat) (xs : List (K × V)) :
    (insertAll le n xs).ech.flatten = xs.foldl (absInsert le (TopNState.new n : TopNState K V).limit) [] ∧
    EchOK le (insertAll le n xs).ech :=
  foldl_insert_refines le hp xs (TopNState.new n) (echOK_nil le) rfl

/-- ORDER BY loses or invents no row: the ordered pieces are a permutation of the buffered rows -/
theorem ordered_perm (le : K → K → Bool) (hp : TotalPreorder le) (xs : List (K × V)) :
    (insertAll le 0 xs).values.Perm (xs.map (·.2)) := by
  unfold TopNState.values
  rw [(insertAll_refines le hp 0 xs).1]
  exact ((foldl_ins_perm le xs []).trans (.of_eq (List.append_nil _)) |>.trans (List.reverse_perm xs)).map _

/-- the ordered pieces come out with non-decreasing keys -/
theorem ordered_sorted (le : K → K → Bool) (hp : TotalPreorder le) (xs : List (K × V)) :
    Sorted le (insertAll le 0 xs).ech.flatten := by
  rw [(insertAll_refines le hp 0 xs).1]
  exact foldl_ins_sorted le hp xs [] List.Pairwise.nil

/-- stability of one insertion: a new row is placed after every row whose key is ≤ its own, in
    particular after all earlier rows with an equivalent key (ties keep their arrival order) -/
theorem ordered_stable (le : K → K → Bool) (x : K × V) (l : List (K × V)) :
    ∃ pre post, ins le x l = pre ++ x :: post ∧ l = pre ++ post ∧ (∀ y ∈ pre, le y.1 x.1 = true) :=
  ins_stable le x l

/-- permutation, for the function the model's `finish` actually prints, with the real order -/
theorem orderedPieces_perm (p : Plan) (hp : p.le = criteriaLe p.cfg.today p.kinds p.q.orderingAsc)
    (st : ResSt) (hl : p.q.limit = 0) :
    (orderedPieces p st).Perm (st.buffer.map (·.2)) := by
  unfold orderedPieces
  rw [hl]
  exact ordered_perm p.le (hp ▸ criteria_total_preorder _ _ _) st.buffer

/-- sortedness of the flattened echelons whose values `orderedPieces` prints, with the real order -/
theorem orderedPieces_sorted (p : Plan) (hp : p.le = criteriaLe p.cfg.today p.kinds p.q.orderingAsc)
    (st : ResSt) (hl : p.q.limit = 0) :
    Sorted p.le (insertAll p.le 0 st.buffer).ech.flatten :=
  ordered_sorted p.le (hp ▸ criteria_total_preorder _ _ _) st.buffer

/-- the hypotheses can be met: `Plan.of` builds exactly that order -/
example (q : Query) (cfg : Config) :
    (Plan.of q cfg).le = criteriaLe (Plan.of q cfg).cfg.today (Plan.of q cfg).kinds (Plan.of q cfg).q.orderingAsc := rfl

/-- **a repeated key never changes the order**: if the same column (same kind, same values `x`, `y` in the two
    rows) is listed again later in the key list, in whatever direction `d'`, the comparison is the one without
    the repeat — the first mention decides -/
theorem repeated_key_irrelevant (today : Int) (k : KeyKind) (x y : Str) (d d' : Bool)
    (K1 K2 K3 : List KeyKind) (D1 D2 D3 : List Bool) (A1 A2 A3 B1 B2 B3 : List Str)
    (h1 : K1.length = D1.length) (h1a : K1.length = A1.length) (h1b : K1.length = B1.length)
    (h2 : K2.length = D2.length) (h2a : K2.length = A2.length) (h2b : K2.length = B2.length) :
    criteriaLeL today (K1 ++ k :: (K2 ++ k :: K3)) (D1 ++ d :: (D2 ++ d' :: D3)) (A1 ++ x :: (A2 ++ x :: A3)) (B1 ++ y :: (B2 ++ y :: B3)) =
    criteriaLeL today (K1 ++ k :: (K2 ++ K3)) (D1 ++ d :: (D2 ++ D3)) (A1 ++ x :: (A2 ++ A3)) (B1 ++ y :: (B2 ++ B3)) := by
  refine criteriaLeL_append_congr today ?_ K1 D1 A1 B1 h1 h1a h1b
  simp only [criteriaLeL_step, List.headD_cons, List.tail_cons]
  -- unless the first mention ties, it decides; if it ties, so does the second mention, in either direction
  cases hxy : dirLe today k d x y <;> cases hyx : dirLe today k d y x <;>
    simp only [Bool.false_and, Bool.true_and, Bool.not_false, Bool.true_or, Bool.not_true, Bool.false_or]
  refine criteriaLeL_append_congr today ?_ K2 D2 A2 B2 h2 h2a h2b
  -- a tie is `keyLe` both ways; `d'` only chooses which way round it is asked
  have : dirLe today k d' x y = true ∧ dirLe today k d' y x = true := by
    cases d <;> cases d'
    · exact ⟨hxy, hyx⟩
    · exact ⟨hyx, hxy⟩
    · exact ⟨hyx, hxy⟩
    · exact ⟨hxy, hyx⟩
  simp [criteriaLeL_step, this]

/-! ### the ORDER BY clause is read as written -/

open ParseO ParseC ParseL in
/-- **`parse_order_by` reads the key list as written** -/
theorem order_by_parse_correct (fields : List Expr) (items : List OItem) (rest : List Lexem)
    (hwf : ∀ it ∈ items, it.key.WF fields) (hsr : StopOr rest) (hos : OrderStop rest)
    (hsep : ∀ (a b : OItem) (l1 l2 : List OItem), items = l1 ++ a :: b :: l2 → (∃ s tl x, a.key = .expr s tl x) → a.desc = false → b.comma = true) :
    (parseOrderBy fields (.order :: .by_ :: (items.flatMap OItem.toks ++ rest))).1 =
      .ok (items.map (·.key.tree), items.map (fun it => !it.desc)) ∧
    (parseOrderBy fields (.order :: .by_ :: (items.flatMap OItem.toks ++ rest))).2.1 = rest :=
  Prod.ext_iff.1 (order_items fields items [] [] rest hwf hsr hos hsep)

open ParseO in
/-- `order by 2, 1 desc, 2 desc` with the select list `path, size`: three keys (size asc, path desc, size desc) —
    the repeat is kept as its own key with its own direction (and `repeated_key_irrelevant` says it cannot matter) -/
example :
    (parseOrderBy [.field false .Path, .field false .Size]
      [.order, .by_, .raw ['2'], .comma, .raw ['1'], .desc, .comma, .raw ['2'], .desc, .limit, .raw ['3']]).1 =
      .ok ([.field false .Size, .field false .Path, .field false .Size], [true, false, false]) := by
  have h := order_by_parse_correct [.field false .Path, .field false .Size]
    [⟨false, .pos ['2'] 2 (.field false .Size), false⟩, ⟨true, .pos ['1'] 1 (.field false .Path), true⟩, ⟨true, .pos ['2'] 2 (.field false .Size), true⟩]
    [.limit, .raw ['3']]
    (by intro it hit
        simp only [List.mem_cons, List.mem_nil_iff, or_false] at hit
        rcases hit with rfl | rfl | rfl <;> simp only [OKey.WF] <;> exact ⟨by decide, by decide, rfl⟩)
    (by simp [ParseC.StopOr, ParseC.StopCond]) (by simp [OrderStop])
    (by intro a b l1 l2 h1 ⟨s, tl, x, hx⟩ _
        have : a ∈ [(⟨false, .pos ['2'] 2 (.field false .Size), false⟩ : OItem), ⟨true, .pos ['1'] 1 (.field false .Path), true⟩, ⟨true, .pos ['2'] 2 (.field false .Size), true⟩] := by
          rw [h1]; simp
        simp only [List.mem_cons, List.mem_nil_iff, or_false] at this
        rcases this with rfl | rfl | rfl <;> cases hx)
  exact h.1

/-! ### which keys compare numerically -/

/-- every arithmetic expression is a numeric key, whichever side its column is on (D76 fix) -/
theorem arith_key_is_numeric (l r : Expr) (op : ArithOp) : keyKind (.arith l op r) = .numeric := rfl

/-- DAY, MONTH, YEAR and DAYOFWEEK of anything — in particular of a date column — are numeric keys, not dates (re-decided over the generated classification set on
    every run; DAYOFWEEK was missing: D75 fix) -/
theorem date_part_keys_are_numeric (m : Bool) (a : Expr) (rest : List Expr) :
    keyKind (.func m .Day a rest) = .numeric ∧ keyKind (.func m .Month a rest) = .numeric ∧
    keyKind (.func m .Year a rest) = .numeric ∧ keyKind (.func m .DayOfWeek a rest) = .numeric := by
  have h1 : Function.isNumeric .Day = true := by decide +kernel
  have h2 : Function.isNumeric .Month = true := by decide +kernel
  have h3 : Function.isNumeric .Year = true := by decide +kernel
  have h4 : Function.isNumeric .DayOfWeek = true := by decide +kernel
  simp [keyKind, Expr.containsNumeric, h1, h2, h3, h4]

/-- a numeric column is a numeric key, a date column a date key -/
example : keyKind (.field false .Size) = .numeric ∧ keyKind (.field false .Modified) = .datetime ∧
    keyKind (.field false .Name) = .text := by decide +kernel

end Fsel.C05
