/-
  C08  GROUP BY partitions the matching entries; per-group aggregates are exact.

  Model: `partitionRows` (= `partition_output_buffer`) folds the buffered rows into groups keyed by the
  values of the grouping columns; ORDER BY over the group rows compares them by `groupedCmp`, cell by cell `cellCmp`.
  Idea: `partitionRows` in closed form (`Lemmas/Agg`): the groups are the fibres of the key, one per distinct key,
  and cover all rows, so COUNTs and SUMs add up; the comparisons are lexicographic combinations of orders
  (`Lemmas/CellOrder`).  The theorems hold of every list of rows, every key list and all directions.
  Not theorems: that the printed group rows are sorted by the comparison, and the rendering, are decided by the
  correspondence.
-/
import Fsel.Lemmas.Agg
import Fsel.Lemmas.CellOrder

namespace Fsel.C08
open Fsel AggL ListL

/-- `acc` is the partition of `rs` by key: what `partitionRows` returns (`partition_ok`) -/
structure PartOK (keys : List Str) (acc : List (List Str × List Memo)) (rs : List Memo) : Prop where
  fiber : ∀ g ∈ acc, g.2 = rs.filter (fun r => keyOf keys r == g.1) ∧ g.2 ≠ []
  nodup : (acc.map (·.1)).Nodup
  covers : ∀ r ∈ rs, ∃ g ∈ acc, g.1 = keyOf keys r

theorem partition_ok (keys : List Str) (rows : List Memo) : PartOK keys (partitionRows keys rows) rows := by
  rw [partitionRows_eq]
  refine ⟨fun g hg => ?_, ?_, fun r hr => ?_⟩
  · have ⟨hk, hg2⟩ := mem_fibres.mp hg
    obtain ⟨r, hr, e⟩ := List.mem_map.mp hk
    refine ⟨hg2, ?_⟩
    rw [hg2]
    exact List.ne_nil_of_mem (List.mem_filter.mpr ⟨hr, beq_iff_eq.mpr e⟩)
  · rw [fibres_keys]
    exact nodup_eraseDups _
  · exact ⟨(keyOf keys r, rows.filter fun r' => keyOf keys r' == keyOf keys r),
      mem_fibres.mpr ⟨List.mem_map_of_mem hr, rfl⟩, rfl⟩

/-- each group is exactly the fibre of its key, in arrival order, and non-empty -/
theorem partition_fiber (keys : List Str) (rows : List Memo) :
    ∀ g ∈ partitionRows keys rows, g.2 = rows.filter (fun r => keyOf keys r == g.1) ∧ g.2 ≠ [] :=
  (partition_ok keys rows).fiber

/-- one group per distinct key value -/
theorem partition_keys_nodup (keys : List Str) (rows : List Memo) :
    ((partitionRows keys rows).map (·.1)).Nodup := (partition_ok keys rows).nodup

/-- every matching entry contributes to a group (the one of its key) -/
theorem partition_covers (keys : List Str) (rows : List Memo) :
    ∀ r ∈ rows, ∃ g ∈ partitionRows keys rows, g.1 = keyOf keys r := (partition_ok keys rows).covers

/-- a group's aggregate is the aggregate of the ungrouped rows restricted to `key = value` -/
theorem group_equals_restricted (keys : List Str) (rows : List Memo) (f : Function) (col : Str) :
    ∀ g ∈ partitionRows keys rows,
      aggregate f g.2 col = aggregate f (rows.filter (fun r => keyOf keys r == g.1)) col := by
  intro g hg
  rw [(partition_fiber keys rows g hg).1]

/-- the group COUNTs add up to the ungrouped COUNT -/
theorem counts_add_up (keys : List Str) (rows : List Memo) :
    ((partitionRows keys rows).map (·.2.length)).sum = rows.length := by
  rw [← (partitionRows_perm keys rows).length_eq, List.length_flatten, List.map_map]
  rfl

/-- `bufferSum` (what SUM prints) is a per-row sum: a row without a parsable value is skipped, that is counts 0 -/
theorem bufferSum_eq (rows : List Memo) (col : Str) :
    bufferSum rows col = (rows.map fun r => ((r.get? col).bind parseUsize?).getD 0).sum := by
  rw [bufferSum, colValues, List.filterMap_filterMap, sum_filterMap]

/-- the group SUMs add up to the ungrouped SUM (per-row contribution = the parsed value, 0 if absent); either side is
    the model's own sum, `bufferSum` of a group and of all rows, by `bufferSum_eq` -/
theorem sums_add_up (keys : List Str) (rows : List Memo) (col : Str) :
    ((partitionRows keys rows).map fun g => (g.2.map fun r => ((r.get? col).bind parseUsize?).getD 0).sum).sum =
      (rows.map fun r => ((r.get? col).bind parseUsize?).getD 0).sum :=
  groups_add_up _ keys rows

/-! ### ORDER BY over the group rows: the comparison -/

open CellL in
/-- **the comparison of group rows is mirror-symmetric** (D80 fix): for every key list, every direction list and
    every two rows — whatever mix of numbers and text their cells hold — comparing them the other way round gives
    the opposite answer.  So the comparison is total, never answers "less" in both directions, and two rows are tied
    in one direction exactly when they are tied in the other (what `sort_by` needs besides transitivity, which is
    `cell_le_transitive` for cells and part of `group_row_order_is_total` for rows) -/
theorem grouped_cmp_mirror (idxs : List Nat) (asc : List Bool) (a b : List (Str × Str)) :
    groupedCmp idxs asc b a = oswap (groupedCmp idxs asc a b) :=
  (isOrd_groupedCmp idxs asc).swap a b

open CellL in
/-- **the cells of group rows are compared by a total preorder** (D80; that only equal cells tie, `cellCmp x y = .eq →
    x = y`, holds but is not proved here): `cellCmp` is mirror-symmetric and transitive
    in all four `<` / `=` combinations for every three cells, numbers, text or a mix — it is the lexicographic
    order of (number before text, numeric value under `f64::total_cmp`, integer spelling, text), proved from
    the orders of ℚ, ℤ and code points; in particular `9 < 10 < 7z` can never come with `7z < 9` again -/
theorem cell_order_is_total : IsOrd cellCmp := isOrd_cellCmp

open CellL in
/-- transitivity in the form `sort_by` needs: with `≤` for "not greater", `x ≤ y` and `y ≤ z` give `x ≤ z` -/
theorem cell_le_transitive (x y z : Str) (h1 : cellCmp x y ≠ .gt) (h2 : cellCmp y z ≠ .gt) : cellCmp x z ≠ .gt :=
  isOrd_cellCmp.le_trans x y z h1 h2

open CellL in
/-- **ORDER BY over group rows compares the rows by a total preorder** (rows that agree on all keys tie): for every
    list of key positions and every list of directions the row comparison is mirror-symmetric and transitive in all
    four `<` / `=` combinations — it is the lexicographic combination of the cell order on each key, reversed for `desc`.  (What a sort by it returns is
    not stated here: the order of the printed rows is checked by the correspondence.) -/
theorem group_row_order_is_total (idxs : List Nat) (asc : List Bool) : IsOrd (groupedCmp idxs asc) :=
  isOrd_groupedCmp idxs asc

/-- numbers sort before everything that is no number, whatever their spellings: a cell that reads as a number
    is below a cell that does not, and the other way round above (`9 < 7z`, `10 < 7z`, never `7z < 9`) -/
theorem number_before_text (x y : Str) (u : Num) (hx : parseF64? x = some u) (hy : parseF64? y = none) :
    cellCmp x y = .lt ∧ cellCmp y x = .gt := by
  constructor <;> (unfold cellCmp; simp only [hx, hy])

/-- the hypotheses can be met: `7z` and `txt` are no numbers -/
example : parseF64? (ofS "7z") = none ∧ parseF64? (ofS "txt") = none := by decide

end Fsel.C08
