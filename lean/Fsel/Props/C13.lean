/-
  C13  Date literals denote intervals; comparisons partition time consistently.

  Model: `parseDatetime` (DATE_REGEX as an explicit scanner, relative literals w.r.t. the current local
  day), `compareValues` on date-typed values, `formatDatetime`.  Times are local naive seconds (the
  harness applies the fixed zone offset when it builds the snapshot).
  Idea: what a matched literal denotes is one equation (`DateL.intervalOfParts_eq`); printing inverts reading because
  the civil-date arithmetic is inverted in both directions (`Lemmas/Civil.lean`).
  Not theorems: signed day offsets (`+N`, `-N`: modelled in `parseDatetime`, compared with the binary under fixed
  clocks).  That chrono computes the same calendar arithmetic and the same rendering `modified` = YYYY-MM-DD HH:MM:SS is
  tied by the correspondence over a grid of edge times and three fixed-offset zones; DST zones and
  chrono-english free-form dates are outside the model.
-/
import Fsel.Model.Eval
import Fsel.Lemmas.Civil
import Fsel.Lemmas.Date

namespace Fsel.C13
open Fsel DateL

theorem secsOf_add (y : Int) (mo d h mi s h' mi' s' : Nat) :
    secsOf y mo d h' mi' s' - secsOf y mo d h mi s = Int.ofNat (h' * 3600 + mi' * 60 + s') - Int.ofNat (h * 3600 + mi * 60 + s) := by
  unfold secsOf; omega

/-- day precision: the whole local day -/
theorem interval_day (y mo d : Nat) (hv : validCivil y mo d = true) :
    intervalOfParts y mo d none none none = .ok (secsOf y mo d 0 0 0) (secsOf y mo d 0 0 0 + 86399) := by
  rw [intervalOfParts_eq, if_pos ⟨hv, by decide⟩]
  exact congrArg _ (secsOf_eq_add 0 0 0 23 59 59 86399 rfl)

/-- hour precision -/
theorem interval_hour (y mo d h : Nat) (hv : validCivil y mo d = true) (hh : h < 24) :
    intervalOfParts y mo d (some h) none none = .ok (secsOf y mo d h 0 0) (secsOf y mo d h 0 0 + 3599) := by
  rw [intervalOfParts_eq, if_pos ⟨hv, hh, by decide⟩]
  exact congrArg _ (secsOf_eq_add h 0 0 h 59 59 3599 (by omega))

/-- minute precision -/
theorem interval_minute (y mo d h mi : Nat) (hv : validCivil y mo d = true) (hh : h < 24) (hm : mi < 60) :
    intervalOfParts y mo d (some h) (some mi) none = .ok (secsOf y mo d h mi 0) (secsOf y mo d h mi 0 + 59) := by
  rw [intervalOfParts_eq, if_pos ⟨hv, hh, hm, by decide⟩]
  exact congrArg _ (secsOf_eq_add h mi 0 h mi 59 59 (by omega))

/-- full precision: a single instant (a = b) -/
theorem interval_second (y mo d h mi s : Nat) (hv : validCivil y mo d = true) (hh : h < 24) (hm : mi < 60) (hs : s < 60) :
    intervalOfParts y mo d (some h) (some mi) (some s) = .ok (secsOf y mo d h mi s) (secsOf y mo d h mi s) := by
  rw [intervalOfParts_eq, if_pos ⟨hv, hh, hm, hs⟩]; rfl

/-- every interval a literal denotes is non-empty -/
theorem interval_ordered (y mo d : Nat) (h mi se : Option Nat) (a b : Int)
    (hi : intervalOfParts y mo d h mi se = .ok a b) : a ≤ b := by
  rw [intervalOfParts_eq] at hi
  split at hi
  next =>
    injection hi with ha hb
    rw [← ha, ← hb]
    exact secsOf_le (getD_zero_le h 23) (getD_zero_le mi 59) (getD_zero_le se 59)
  next => cases hi

/-- hour 24+, minute/second 60+ and impossible calendar dates are rejected (status-2 diagnostic, no crash; D56 fixed) -/
theorem out_of_range_rejected (y mo d : Nat) (h mi se : Option Nat)
    (hbad : validCivil y mo d = false ∨ (∃ v, h = some v ∧ v ≥ 24) ∨ (∃ v, mi = some v ∧ v ≥ 60) ∨ (∃ v, se = some v ∧ v ≥ 60)) :
    intervalOfParts y mo d h mi se = .err := by
  rw [intervalOfParts_eq, if_neg]
  rintro ⟨hv, hh, hm, hs⟩
  rcases hbad with hb | ⟨v, rfl, hv'⟩ | ⟨v, rfl, hv'⟩ | ⟨v, rfl, hv'⟩
  · rw [hb] at hv; cases hv
  · exact Nat.not_lt.2 hv' hh
  · exact Nat.not_lt.2 hv' hm
  · exact Nat.not_lt.2 hv' hs

/-- a concrete check: 2024-02-29 exists, 2023-02-29 does not -/
example : validCivil 2024 2 29 = true ∧ validCivil 2023 2 29 = false := by decide

/-- the comparison table of date-typed values against a literal interval [a, b] -/
theorem cmp_table (today : Int) (c : RxCache) (t a b : Int) (lit : Str) (hl : parseDatetime today lit = .ok a b) :
    let fv := Variant.ofDatetime t
    let v := Variant.ofString lit
    compareValues today c fv .Eq v = .ok (.val (decide (a ≤ t ∧ t ≤ b)), c) ∧
    compareValues today c fv .Ne v = .ok (.val (decide (t < a ∨ t > b)), c) ∧
    compareValues today c fv .Lt v = .ok (.val (decide (t < a)), c) ∧
    compareValues today c fv .Gt v = .ok (.val (decide (t > b)), c) ∧
    compareValues today c fv .Lte v = .ok (.val (decide (t ≤ b)), c) ∧
    compareValues today c fv .Gte v = .ok (.val (decide (t ≥ a)), c) := by
  simp only [compareValues, Variant.ofDatetime, Variant.ofString, hl]
  refine ⟨?_, ?_, ?_, ?_, ?_, ?_⟩ <;> simp <;> omega

/-- exactly one of `<`, `=`, `>` holds for every time and every non-empty interval -/
theorem trichotomy (t a b : Int) (hab : a ≤ b) :
    (t < a ∧ ¬ (a ≤ t ∧ t ≤ b) ∧ ¬ t > b) ∨ (¬ t < a ∧ (a ≤ t ∧ t ≤ b) ∧ ¬ t > b) ∨ (¬ t < a ∧ ¬ (a ≤ t ∧ t ≤ b) ∧ t > b) := by
  omega

/-- `today` is the whole current local day -/
theorem relative_today (today : Int) :
    parseDatetime today (ofS "today") = .ok (today * 86400) (today * 86400 + 86399) := by
  simp [parseDatetime]

/-- `yesterday` is the whole local day before -/
theorem relative_yesterday (today : Int) :
    parseDatetime today (ofS "yesterday") = .ok ((today - 1) * 86400) ((today - 1) * 86400 + 86399) := by
  simp [parseDatetime, ofS]

/-- the scanner on a day-precision literal with arbitrary digits and either separator -/
theorem regex_day_literal (y1 y2 y3 y4 m1 m2 d1 d2 s1 s2 : Char)
    (hy : isDigit y1 = true ∧ isDigit y2 = true ∧ isDigit y3 = true ∧ isDigit y4 = true)
    (hm : isDigit m1 = true ∧ isDigit m2 = true) (hd : isDigit d1 = true ∧ isDigit d2 = true)
    (hs : isDateSep s1 = true ∧ isDateSep s2 = true) :
    dateRegexAt [y1, y2, y3, y4, s1, m1, m2, s2, d1, d2] =
      some (digitsVal [y1, y2, y3, y4], digitsVal [m1, m2], digitsVal [d1, d2], none, none, none) := by
  simp [dateRegexAt, digits12, hy.1, hy.2.1, hy.2.2.1, hy.2.2.2, hm.1, hm.2, hd.1, hd.2, hs.1, hs.2]

/-! ### the printed `modified` column is the inverse of the literal reading -/

/-- the printed date of a day number that a valid date denotes is that date -/
theorem format_date_inverts (y : Int) (mo d : Nat) (hv : validCivil y mo d = true) :
    formatDate (daysFromCivil y mo d) = pad4 y.toNat ++ ['-'] ++ pad2 mo ++ ['-'] ++ pad2 d := by
  unfold formatDate
  simp only [CivilL.civil_roundtrip y mo d hv]

/-- **printing inverts reading**: the entry whose time is the instant a full-precision literal denotes
    prints exactly that literal's fields — for every valid civil date (any year) and time of day.  With
    `interval_second` (a = b = `secsOf …`) this ties the `modified` column to the comparison table: the
    printed text, read back as a literal, denotes the entry's own second. -/
theorem format_inverts_literal (y : Int) (mo d h mi s : Nat) (hv : validCivil y mo d = true)
    (hh : h < 24) (hm : mi < 60) (hs : s < 60) :
    formatDatetime (secsOf y mo d h mi s) =
      pad4 y.toNat ++ ['-'] ++ pad2 mo ++ ['-'] ++ pad2 d ++ [' '] ++ pad2 h ++ [':'] ++ pad2 mi ++ [':'] ++ pad2 s := by
  obtain ⟨h1, h2⟩ := secsOf_split y mo d hh hm hs
  obtain ⟨e1, e2, e3⟩ := clock_split h mi s hm hs
  unfold formatDatetime
  simp only [h1, h2, CivilL.civil_roundtrip y mo d hv, e1, e2, e3]

/-- **the printed `modified` text is the entry's own time**: for every time `t` (seconds, local) the six
    fields that `format_datetime` prints form a valid civil date and clock time, and the second they denote —
    what a full-precision literal with those fields means — is `t` itself -/
theorem printed_fields_denote_entry_time (t : Int) :
    validCivil (civilFromDays (t / 86400)).1 (civilFromDays (t / 86400)).2.1 (civilFromDays (t / 86400)).2.2 = true ∧
    (t % 86400).toNat / 3600 < 24 ∧ (t % 86400).toNat / 60 % 60 < 60 ∧ (t % 86400).toNat % 60 < 60 ∧
    secsOf (civilFromDays (t / 86400)).1 (civilFromDays (t / 86400)).2.1 (civilFromDays (t / 86400)).2.2
      ((t % 86400).toNat / 3600) ((t % 86400).toNat / 60 % 60) ((t % 86400).toNat % 60) = t ∧
    formatDatetime t =
      pad4 (civilFromDays (t / 86400)).1.toNat ++ ['-'] ++ pad2 (civilFromDays (t / 86400)).2.1 ++ ['-'] ++
        pad2 (civilFromDays (t / 86400)).2.2 ++ [' '] ++ pad2 ((t % 86400).toNat / 3600) ++ [':'] ++
        pad2 ((t % 86400).toNat / 60 % 60) ++ [':'] ++ pad2 ((t % 86400).toNat % 60) := by
  obtain ⟨hv, hd⟩ := CivilL.civil_of_days (t / 86400)
  have hlt : (t % 86400).toNat < 3600 * 24 :=
    (Int.toNat_lt (Int.emod_nonneg t (by decide))).2 (Int.emod_lt_of_pos t (by decide))
  refine ⟨hv, Nat.div_lt_of_lt_mul hlt, Nat.mod_lt _ (by decide), Nat.mod_lt _ (by decide), ?_, rfl⟩
  unfold secsOf
  rw [hd, clock_join]
  exact day_join t

/-- two valid dates with the same day number are the same date: day literals denote disjoint intervals -/
theorem days_injective (y1 y2 : Int) (m1 d1 m2 d2 : Nat) (h1 : validCivil y1 m1 d1 = true) (h2 : validCivil y2 m2 d2 = true)
    (h : daysFromCivil y1 m1 d1 = daysFromCivil y2 m2 d2) : (y1, m1, d1) = (y2, m2, d2) := by
  rw [← CivilL.civil_roundtrip y1 m1 d1 h1, ← CivilL.civil_roundtrip y2 m2 d2 h2, h]

end Fsel.C13
