/-
  The level order without fuel (`levelOrder`, by well-founded recursion on the number of directories still to be
  listed) and what it has to do with the pre-order: the model's fuel suffices, the breadth-first report is a
  permutation of the depth-first one, it records the same failing directories, and its levels never decrease.
  The last three go by `queue_induct`, induction along the queue loop: all they need to know about depths is that a
  directory queues its sub-directories one level deeper (`items_wf`).
-/
import Fsel.Lemmas.WalkB

namespace Fsel
namespace WalkB
open WalkL

/-- number of directory listings a queue can still cause -/
def qSize (q : List QItem) : Nat := (q.map fun it => 1 + Node.countDirsList it.kids).sum

theorem qSize_append (a b : List QItem) : qSize (a ++ b) = qSize a + qSize b := by
  simp [qSize, List.sum_append]

theorem qSize_nil : qSize [] = 0 := rfl

theorem qSize_cons (it : QItem) (q : List QItem) : qSize (it :: q) = 1 + Node.countDirsList it.kids + qSize q := by
  simp [qSize]

theorem items_size (rp : RootParams) (dp dc : Str) (lvl : Nat) (ns : List Node) :
    qSize (kidsItems rp dp dc lvl ns) ≤ Node.countDirsList ns := by
  fun_induction kidsItems rp dp dc lvl ns with
  | case1 => exact Nat.le_refl 0
  | case2 de l kids ns ih =>
    rw [qSize_append, Node.countDirsList, Node.countDirs]
    refine Nat.add_le_add ?_ ih
    split
    · rw [qSize_cons, qSize_nil]
      exact Nat.le_refl _
    · exact Nat.zero_le _
  | case3 le z ns ih =>
    rw [Node.countDirsList, Node.countDirs, Nat.zero_add]
    exact ih

theorem qSize_step (rp : RootParams) (dp dc : Str) (lvl : Nat) (it : QItem) (q : List QItem) :
    qSize (q ++ kidsItems rp dp dc lvl it.kids) < qSize (it :: q) := by
  rw [qSize_append, qSize_cons]
  have := items_size rp dp dc lvl it.kids
  omega

theorem qSize_tail (it : QItem) (q : List QItem) : qSize q < qSize (it :: q) := by
  rw [qSize_cons]
  omega

/-- **level order**: list a directory, then everything queued before its sub-directories, then them -/
def levelOrder (rp : RootParams) : List QItem → List (Node × Entry × Nat)
  | [] => []
  | it :: q =>
    if it.listable then
      kidsEvents it.path it.canon (itemDepth rp it) it.kids ++
        levelOrder rp (q ++ kidsItems rp it.path it.canon (itemDepth rp it) it.kids)
    else levelOrder rp q
termination_by q => qSize q
decreasing_by
  · rw [qSize_append, qSize_cons]
    have := items_size rp it.path it.canon (itemDepth rp it) it.kids
    omega
  · rw [qSize_cons]; omega

/-- the unlistable directories, in the order they are met -/
def levelFaults (rp : RootParams) : List QItem → List Str
  | [] => []
  | it :: q =>
    if it.listable then levelFaults rp (q ++ kidsItems rp it.path it.canon (itemDepth rp it) it.kids)
    else it.path :: levelFaults rp q
termination_by q => qSize q
decreasing_by
  · rw [qSize_append, qSize_cons]
    have := items_size rp it.path it.canon (itemDepth rp it) it.kids
    omega
  · rw [qSize_cons]; omega

/-- with fuel for every directory the fuelled traversal is the level order -/
theorem bfsEvents_enough (rp : RootParams) : ∀ (f : Nat) (q : List QItem), qSize q ≤ f →
    bfsEvents rp f q = levelOrder rp q ∧ bfsFaults rp f q = levelFaults rp q := by
  intro f q h
  fun_induction bfsEvents rp f q with
  | case1 q =>
    cases q with
    | nil =>
      rw [levelOrder, levelFaults]
      exact ⟨rfl, rfl⟩
    | cons it q => exact absurd (Nat.lt_of_lt_of_le (qSize_tail it q) h) (Nat.not_lt_zero _)
  | case2 f =>
    rw [levelOrder, levelFaults]
    exact ⟨rfl, rfl⟩
  | case3 f it q hl ih =>
    have hs := qSize_step rp it.path it.canon (itemDepth rp it) it q
    obtain ⟨a, b⟩ := ih (Nat.le_of_lt_succ (Nat.lt_of_lt_of_le hs h))
    rw [bfsFaults, levelOrder, levelFaults, if_pos hl, if_pos hl, if_pos hl, a, b]
    exact ⟨rfl, rfl⟩
  | case4 f it q hl ih =>
    obtain ⟨a, b⟩ := ih (Nat.le_of_lt_succ (Nat.lt_of_lt_of_le (qSize_tail it q) h))
    rw [bfsFaults, levelOrder, levelFaults, if_neg hl, if_neg hl, if_neg hl, a, b]
    exact ⟨rfl, rfl⟩

/-! ### against the pre-order -/

/-- a queued directory on which the depth arithmetic (`depth_child`) works -/
def ItemWf (rp : RootParams) (it : QItem) : Prop :=
  goodL it.kids ∧ 1 < it.canon.length ∧ rp.base ≤ calcDepth it.canon

/-- (its first clause is `QGood` of the queue, which is all the queue loop itself needs) -/
def QWf (rp : RootParams) (q : List QItem) : Prop := ∀ it ∈ q, ItemWf rp it

theorem items_wf {rp : RootParams} {it : QItem} (hit : ItemWf rp it) (x : QItem)
    (hx : x ∈ kidsItems rp it.path it.canon (itemDepth rp it) it.kids) :
    ItemWf rp x ∧ itemDepth rp x = itemDepth rp it + 1 := by
  obtain ⟨hg, hc, hb⟩ := hit
  obtain ⟨de, l, kids, hd, rfl⟩ := mem_kidsItems hg hx
  exact ⟨⟨hd.2.2, childCanon_long it.canon de.name hc, base_le_child it.canon de.name rp.base hd.1 hc hb⟩,
    depth_child it.canon de.name rp.base hd.1 hc hb⟩

@[elab_as_elim]
theorem queue_induct {rp : RootParams} {P : List QItem → Prop} (nil : P [])
    (list : ∀ it q, it.listable = true →
      (∀ x ∈ kidsItems rp it.path it.canon (itemDepth rp it) it.kids, itemDepth rp x = itemDepth rp it + 1) →
      P (q ++ kidsItems rp it.path it.canon (itemDepth rp it) it.kids) → P (it :: q))
    (skip : ∀ it q, ¬ it.listable = true → P q → P (it :: q)) (q : List QItem) (hw : QWf rp q) : P q := by
  fun_induction levelOrder rp q with
  | case1 => exact nil
  | case2 it q hl ih =>
    have hkid := items_wf (hw it List.mem_cons_self)
    refine list it q hl (fun x hx => (hkid x hx).2) (ih fun x hx => ?_)
    rcases List.mem_append.mp hx with h | h
    · exact hw x (List.mem_cons_of_mem _ h)
    · exact (hkid x h).1
  | case3 it q hl ih => exact skip it q hl (ih fun x hx => hw x (List.mem_cons_of_mem _ hx))

/-- what the depth-first walker reports below one queued directory -/
def subtree (rp : RootParams) (it : QItem) : List (Node × Entry × Nat) :=
  if it.listable then eventsL rp it.path it.canon (itemDepth rp it) it.kids else []

/-- what the depth-first walker records below one queued directory -/
def subFaults (rp : RootParams) (it : QItem) : List Str :=
  if it.listable then faultsL rp it.path it.canon (itemDepth rp it) it.kids else [it.path]

/-- one directory, depth-first, against its own entries plus what lies below the sub-directories it queues: the same
    events as multisets, the same faults in the same order -/
theorem kids_split (rp : RootParams) (dp dc : Str) (lvl : Nat) (ns : List Node)
    (hd : ∀ x ∈ kidsItems rp dp dc lvl ns, itemDepth rp x = lvl + 1) :
    (eventsL rp dp dc lvl ns).Perm (kidsEvents dp dc lvl ns ++ (kidsItems rp dp dc lvl ns).flatMap (subtree rp)) ∧
    faultsL rp dp dc lvl ns = (kidsItems rp dp dc lvl ns).flatMap (subFaults rp) := by
  fun_induction kidsItems rp dp dc lvl ns with
  | case1 => exact ⟨.nil, rfl⟩
  | case2 de l kids ns ih =>
    obtain ⟨hd1, hd2⟩ := List.forall_mem_append.mp hd
    obtain ⟨ihe, ihf⟩ := ih hd2
    rw [eventsL, eventsN, faultsL, faultsN, kidsEvents_cons, List.flatMap_append, List.flatMap_append, ihf,
      List.cons_append, List.cons_append]
    by_cases hm : (rp.maxDepth == 0 || decide (lvl < rp.maxDepth)) = true
    · rw [if_pos hm] at hd1
      simp only [hm, Bool.true_and, if_true, List.flatMap_singleton, subtree, subFaults, hd1 _ (List.mem_singleton_self _)]
      exact ⟨((ihe.append_left _).trans (List.perm_append_comm_assoc ..)).cons _, trivial⟩
    · simp only [hm, Bool.false_and, Bool.false_eq_true, if_false, List.flatMap_nil, List.nil_append]
      exact ⟨ihe.cons _, trivial⟩
  | case3 le z ns ih =>
    rw [eventsL, eventsN, faultsL, faultsN, kidsEvents_cons, List.cons_append, List.nil_append, List.cons_append,
      List.nil_append]
    exact ⟨(ih hd).1.cons _, (ih hd).2⟩

/-- the level order of a queue against the depth-first walk of its directories: the same events and the same faults, as
    multisets -/
theorem level_perm (rp : RootParams) (q : List QItem) (hw : QWf rp q) :
    (levelOrder rp q).Perm (q.flatMap (subtree rp)) ∧ (levelFaults rp q).Perm (q.flatMap (subFaults rp)) := by
  refine queue_induct ?_ ?_ ?_ q hw
  · rw [levelOrder, levelFaults]
    exact ⟨.nil, .nil⟩
  · intro it q hl hkid ih
    obtain ⟨hse, hsf⟩ := kids_split rp it.path it.canon _ it.kids hkid
    rw [levelOrder, levelFaults, if_pos hl, if_pos hl, List.flatMap_cons, List.flatMap_cons, subtree, subFaults, if_pos hl,
      if_pos hl, hsf]
    rw [List.flatMap_append, List.flatMap_append] at ih
    -- own ++ rest ~ own ++ (below the sub-directories ++ below `q`) = (own ++ below them) ++ below `q` ~ below `it` ++ below `q`
    refine ⟨((ih.1.trans List.perm_append_comm).append_left _).trans ?_, ih.2.trans List.perm_append_comm⟩
    rw [← List.append_assoc]
    exact (hse.append_right _).symm
  · intro it q hl ih
    rw [levelOrder, levelFaults, if_neg hl, if_neg hl, List.flatMap_cons, List.flatMap_cons, subtree, subFaults, if_neg hl,
      if_neg hl]
    exact ⟨ih.1, ih.2.cons _⟩

/-! ### levels never decrease -/

/-- queue discipline: depths never decrease along the queue and any two differ by at most one -/
def QLevels (rp : RootParams) (q : List QItem) : Prop :=
  q.Pairwise (fun a b => itemDepth rp a ≤ itemDepth rp b) ∧
  ∀ x ∈ q, ∀ y ∈ q, itemDepth rp y ≤ itemDepth rp x + 1

theorem QLevels.step {rp : RootParams} {it : QItem} {q new : List QItem} (h : QLevels rp (it :: q))
    (hnew : ∀ x ∈ new, itemDepth rp x = itemDepth rp it + 1) :
    QLevels rp (q ++ new) ∧ ∀ x ∈ q ++ new, itemDepth rp it ≤ itemDepth rp x := by
  obtain ⟨hp, hnear⟩ := h
  obtain ⟨hhead, hp⟩ := List.pairwise_cons.mp hp
  have hdep : ∀ x ∈ q ++ new, itemDepth rp it ≤ itemDepth rp x ∧ itemDepth rp x ≤ itemDepth rp it + 1 := by
    intro x hx
    rcases List.mem_append.mp hx with h | h
    · exact ⟨hhead x h, hnear it List.mem_cons_self x (List.mem_cons_of_mem _ h)⟩
    · rw [hnew x h]
      exact ⟨Nat.le_succ _, Nat.le_refl _⟩
  refine ⟨⟨List.pairwise_append.mpr ⟨hp, List.pairwise_of_forall_mem_list fun a ha b hb' => ?_,
    fun a ha b hb' => ?_⟩, fun x hx y hy => ?_⟩, fun x hx => (hdep x hx).1⟩
  · rw [hnew a ha, hnew b hb']
    exact Nat.le_refl _
  · rw [hnew b hb']
    exact (hdep a (List.mem_append_left _ ha)).2
  · exact Nat.le_trans (hdep y hy).2 (Nat.succ_le_succ (hdep x hx).1)

theorem kidsEvents_level {dp dc : Str} {lvl : Nat} {ns : List Node} {ev : Node × Entry × Nat}
    (hev : ev ∈ kidsEvents dp dc lvl ns) : ev.2.2 = lvl := by
  simp only [kidsEvents, List.mem_map] at hev
  obtain ⟨n, _, rfl⟩ := hev
  rfl

/-- the lower bound is what lets the entries of the first directory precede all that follows -/
theorem levelOrder_levels (rp : RootParams) (q : List QItem) (hw : QWf rp q) : QLevels rp q →
    (levelOrder rp q).Pairwise (fun a b => a.2.2 ≤ b.2.2) ∧
      ∀ d, (∀ x ∈ q, d ≤ itemDepth rp x) → ∀ ev ∈ levelOrder rp q, d ≤ ev.2.2 := by
  refine queue_induct ?_ ?_ ?_ q hw
  · intro _
    rw [levelOrder]
    exact ⟨.nil, fun _ _ _ hev => nomatch hev⟩
  · intro it q hl hkid ih hlv
    obtain ⟨hlv', hge⟩ := hlv.step hkid
    obtain ⟨ihs, ihg⟩ := ih hlv'
    rw [levelOrder, if_pos hl]
    refine ⟨List.pairwise_append.mpr ⟨List.pairwise_of_forall_mem_list fun a ha b hb => ?_, ihs,
      fun a ha b hb => ?_⟩, fun d hd ev hev => ?_⟩
    · rw [kidsEvents_level ha, kidsEvents_level hb]
      exact Nat.le_refl _
    · rw [kidsEvents_level ha]
      exact ihg _ hge b hb
    · have hdi := hd it List.mem_cons_self
      rcases List.mem_append.mp hev with h | h
      · rw [kidsEvents_level h]
        exact hdi
      · exact ihg d (fun x hx => Nat.le_trans hdi (hge x hx)) ev h
  · intro it q hl ih hlv
    rw [levelOrder, if_neg hl]
    obtain ⟨ihs, ihg⟩ := ih ⟨(List.pairwise_cons.mp hlv.1).2,
      fun x hx y hy => hlv.2 x (List.mem_cons_of_mem _ hx) y (List.mem_cons_of_mem _ hy)⟩
    exact ⟨ihs, fun d hd => ihg d fun x hx => hd x (List.mem_cons_of_mem _ hx)⟩

theorem levelOrder_sorted (rp : RootParams) (q : List QItem) (hw : QWf rp q) (hlv : QLevels rp q) :
    (levelOrder rp q).Pairwise (fun a b => a.2.2 ≤ b.2.2) :=
  (levelOrder_levels rp q hw hlv).1

end WalkB
end Fsel
