/-
  The condition parser implements
      X ::= Y (or Y)*      Y ::= Z (and Z)*      Z ::= not* ( atom | "(" X ")" | "{" X "}" )
  AND binds tighter than OR, brackets override, a run of prefix NOTs negates by parity: for every
  derivation, parsing its token sequence gives the tree the derivation denotes (`X.tree`, nested the way
  `parse_expr`/`parse_and` nest their accumulators) and leaves exactly the tokens that follow.

  An atom is any token sequence that `parse_cond` reads as one condition after any number of NOTs
  (`AtomCond`); `parseCond_nots` reduces that to `condTail` after the operand, and a bracketed condition is
  the case where the operand is a single factor (`parseCond_operand`, `parseAddSub_factor`).
-/
import Fsel.Lemmas.ParseRun

namespace Fsel
namespace ParseC
open ParseL

/-- the prefix NOTs of a condition -/
def nots : Nat → List Lexem
  | 0 => []
  | k + 1 => .not_ :: nots k

def parity : Nat → Bool
  | 0 => false
  | k + 1 => !parity k

/-- an atomic condition: tokens that `parse_cond` consumes exactly after any number of prefix NOTs, yielding `x`
    negated by their parity, whenever a token that may end a condition follows -/
def AtomCond (bs : Bool) (a : List Lexem) (x : Expr) : Prop :=
  ∀ (k : Nat) (r : List Lexem), StopCond r →
    (parseCond bs (nots k ++ (a ++ r))).res = .ok (if parity k then x.negate else x) ∧
    (parseCond bs (nots k ++ (a ++ r))).rest = r

theorem skipNots_nots (k : Nat) (ts : List Lexem) (h : ts.head? ≠ some .not_) :
    (skipNots (nots k ++ ts)).1 = parity k ∧ (skipNots (nots k ++ ts)).2.1 = ts := by
  induction k with
  | zero => rw [show nots 0 ++ ts = ts from rfl, skipNots_id ts h]; exact ⟨rfl, rfl⟩
  | succ k ih => exact ⟨congrArg (!·) ih.1, ih.2⟩

theorem parseCond_nots (bs : Bool) (k : Nat) {ts : List Lexem} (hn : ts.head? ≠ some .not_) :
    (parseCond bs (nots k ++ ts)).out = match (parseAddSub bs ts).out with
      | (.error e, r) => (.error e, r)
      | (.ok left, t2) => condTail bs (parity k) left (infixNot t2).1 (infixNot t2).2.1 := by
  rw [parseCond_out, (skipNots_nots k ts hn).1, (skipNots_nots k ts hn).2]
  rfl

theorem parseCond_operand (bs : Bool) (k : Nat) {ts r : List Lexem} {x : Expr} (hn : ts.head? ≠ some .not_)
    (h : (parseAddSub bs ts).out = (.ok x, r)) (hr : StopCond r) :
    (parseCond bs (nots k ++ ts)).out =
      (.ok (if parity k then (boolShorthand bs x).negate else boolShorthand bs x), r) := by
  rw [parseCond_nots bs k hn, h]
  exact condTail_stop bs _ x r hr

mutual
inductive Z where
  | atom (k : Nat) (a : List Lexem) (x : Expr)
  | paren (k : Nat) (f : X)
  | cparen (k : Nat) (f : X)
inductive YTail where
  | nil
  | cons (z : Z) (rest : YTail)
inductive Y where
  | mk (hd : Z) (tl : YTail)
inductive XTail where
  | nil
  | cons (y : Y) (rest : XTail)
inductive X where
  | mk (hd : Y) (tl : XTail)
end

mutual
def Z.toks : Z → List Lexem
  | .atom k a _ => nots k ++ a
  | .paren k f => nots k ++ (.open_ :: (f.toks ++ [.close]))
  | .cparen k f => nots k ++ (.copen :: (f.toks ++ [.cclose]))
def YTail.toks : YTail → List Lexem
  | .nil => []
  | .cons z rest => .and_ :: (z.toks ++ rest.toks)
def Y.toks : Y → List Lexem
  | .mk hd tl => hd.toks ++ tl.toks
def XTail.toks : XTail → List Lexem
  | .nil => []
  | .cons y rest => .or_ :: (y.toks ++ rest.toks)
def X.toks : X → List Lexem
  | .mk hd tl => hd.toks ++ tl.toks
end

-- the trees, nested as `parse_and` / `parse_expr` nest them: head, then the accumulated rest
mutual
def Z.tree : Z → Expr
  | .atom k _ x => if parity k then x.negate else x
  | .paren k f => if parity k then f.tree.negate else f.tree
  | .cparen k f => if parity k then f.tree.negate else f.tree
def YTail.accum : YTail → Option Expr → Option Expr
  | .nil, acc => acc
  | .cons z rest, acc => rest.accum (some (match acc with | some rr => .logic rr .And z.tree | none => z.tree))
def Y.tree : Y → Expr
  | .mk hd tl => match tl.accum none with | none => hd.tree | some r => .logic hd.tree .And r
def XTail.accum : XTail → Option Expr → Option Expr
  | .nil, acc => acc
  | .cons y rest, acc => rest.accum (some (match acc with | some rr => .logic rr .Or y.tree | none => y.tree))
def X.tree : X → Expr
  | .mk hd tl => match tl.accum none with | none => hd.tree | some r => .logic hd.tree .Or r
end

mutual
def Z.WF (bs : Bool) : Z → Prop
  | .atom _ a x => AtomCond bs a x
  | .paren _ f => f.WF bs ∧ boolShorthand bs f.tree = f.tree
  | .cparen _ f => f.WF bs ∧ boolShorthand bs f.tree = f.tree
def YTail.WF (bs : Bool) : YTail → Prop
  | .nil => True
  | .cons z rest => z.WF bs ∧ rest.WF bs
def Y.WF (bs : Bool) : Y → Prop
  | .mk hd tl => hd.WF bs ∧ tl.WF bs
def XTail.WF (bs : Bool) : XTail → Prop
  | .nil => True
  | .cons y rest => y.WF bs ∧ rest.WF bs
def X.WF (bs : Bool) : X → Prop
  | .mk hd tl => hd.WF bs ∧ tl.WF bs
end

theorem stopCond_ytail (tl : YTail) (r : List Lexem) (hr : StopAnd r) : StopCond (tl.toks ++ r) := by
  cases tl with
  | nil => simpa [YTail.toks] using stopCond_of_stopAnd hr
  | cons z rest => simp [YTail.toks, StopCond]

theorem stopAnd_xtail (tl : XTail) (r : List Lexem) (hr : StopOr r) : StopAnd (tl.toks ++ r) := by
  cases tl with
  | nil => simpa [XTail.toks] using stopAnd_of_stopOr hr
  | cons y rest => simp [XTail.toks, StopAnd, StopCond]

theorem nots_head (k : Nat) (ts : List Lexem) : (nots k ++ (Lexem.open_ :: ts)).head? = some .open_ ∨ (nots k ++ (Lexem.open_ :: ts)).head? = some .not_ := by
  cases k <;> simp [nots]

mutual
theorem parse_Z (bs : Bool) : ∀ (z : Z), z.WF bs → ∀ (r ts : List Lexem), StopCond r → ts = z.toks ++ r →
    (parseCond bs ts).res = .ok z.tree ∧ (parseCond bs ts).rest = r
  | .atom k a x, h => fun r ts hr hts => by
    simp only [Z.toks, List.append_assoc] at hts
    subst hts
    exact h k r hr
  -- a bracketed condition is an operand that is a single factor
  | .paren k f, ⟨hw, hbool⟩ => Reads.of_out fun r hr => by
    have hP : (parseParen bs (.open_ :: (f.toks ++ .close :: r))).out = (.ok f.tree, r) := by
      rw [parseParen_open_out, Reads.out (parse_X bs f hw) (stopOr_close r)]
    rw [Z.toks, List.append_assoc, List.cons_append, List.append_assoc, List.singleton_append,
      parseCond_operand bs k (by simp) (parseAddSub_factor bs hP (stopAdd_of_stopCond hr)) hr, hbool]
    rfl
  | .cparen k f, ⟨hw, hbool⟩ => Reads.of_out fun r hr => by
    have hP : (parseParen bs (.copen :: (f.toks ++ .cclose :: r))).out = (.ok f.tree, r) := by
      rw [parseParen_copen_out, Reads.out (parse_X bs f hw) (stopOr_cclose r)]
    rw [Z.toks, List.append_assoc, List.cons_append, List.append_assoc, List.singleton_append,
      parseCond_operand bs k (by simp) (parseAddSub_factor bs hP (stopAdd_of_stopCond hr)) hr, hbool]
    rfl

theorem parse_YTail (bs : Bool) : ∀ (tl : YTail), tl.WF bs → ∀ (acc : Option Expr) (r ts : List Lexem), StopAnd r → ts = tl.toks ++ r →
    (andLoop bs acc ts).res = .ok (tl.accum acc) ∧ (andLoop bs acc ts).rest = r
  | .nil, _, acc => Reads.of_out fun _ hr => andLoop_stop bs acc _ hr
  | .cons z rest, ⟨hz, hrest⟩, acc => Reads.of_out fun r hr => by
    rw [YTail.toks, List.cons_append, List.append_assoc, andLoop_step,
      Reads.out (parse_Z bs z hz) (stopCond_ytail rest r hr)]
    exact Reads.out (parse_YTail bs rest hrest _) hr

theorem parse_Y (bs : Bool) : ∀ (y : Y), y.WF bs → ∀ (r ts : List Lexem), StopAnd r → ts = y.toks ++ r →
    (parseAnd bs ts).res = .ok y.tree ∧ (parseAnd bs ts).rest = r
  | .mk hd tl, ⟨hhd, htl⟩ => Reads.of_out fun r hr => by
    rw [Y.toks, List.append_assoc, parseAnd_out, Reads.out (parse_Z bs hd hhd) (stopCond_ytail tl r hr)]
    simp only [Reads.out (parse_YTail bs tl htl none) hr, Y.tree]
    cases tl.accum none <;> rfl

theorem parse_XTail (bs : Bool) : ∀ (tl : XTail), tl.WF bs → ∀ (acc : Option Expr) (r ts : List Lexem), StopOr r → ts = tl.toks ++ r →
    (exprLoop bs acc ts).res = .ok (tl.accum acc) ∧ (exprLoop bs acc ts).rest = r
  | .nil, _, acc => Reads.of_out fun _ hr => exprLoop_stop bs acc _ hr
  | .cons y rest, ⟨hy, hrest⟩, acc => Reads.of_out fun r hr => by
    rw [XTail.toks, List.cons_append, List.append_assoc, exprLoop_step,
      Reads.out (parse_Y bs y hy) (stopAnd_xtail rest r hr)]
    exact Reads.out (parse_XTail bs rest hrest _) hr

/-- a disjunction: AND binds tighter than OR -/
theorem parse_X (bs : Bool) : ∀ (x : X), x.WF bs → ∀ (r ts : List Lexem), StopOr r → ts = x.toks ++ r →
    (parseExpr bs ts).res = .ok x.tree ∧ (parseExpr bs ts).rest = r
  | .mk hd tl, ⟨hhd, htl⟩ => Reads.of_out fun r hr => by
    rw [X.toks, List.append_assoc, parseExpr_out, Reads.out (parse_Y bs hd hhd) (stopAnd_xtail tl r hr)]
    simp only [Reads.out (parse_XTail bs tl htl none) hr, X.tree]
    cases tl.accum none <;> rfl
end

theorem X.reads (bs : Bool) {x : X} (h : x.WF bs) : Reads (parseExpr bs) x.toks StopOr x.tree := parse_X bs x h

end ParseC
end Fsel
