/-
  C16  Every documented scalar function computes its documented value for any argument.

  Model: `Funcs.lean` (`scalarFn` = the entry-independent arms of `function::get_value`), `Text.lean`.
  Idea: the theorems hold for every argument string — any length, any characters.  LENGTH, CONCAT*, COALESCE,
  BIN/HEX/OCT, ABS/LEAST/GREATEST and the date parts are statements about the arms of `scalarFn`; the TRIM, SUBSTR,
  REPLACE and base64 theorems are about the text functions `trim`, `substring`, `strReplace`, `b64dec`/`b64enc` that
  those arms call, and no theorem connects them to the arm (which parses the position and length arguments).
  Not theorems: base64 on text — only `b64dec (b64enc bs) = some bs` on byte sequences is proved; TO_BASE64 and
  FROM_BASE64 wrap these in the UTF-8 codec `String.toUTF8/fromUTF8?`, about which nothing is proved here.
  `wrong_kind_total` holds because the model's result type has no third possibility; that the Rust does not panic
  is decided by the in-process sweep of C10/C16.  LOWER/UPPER/INITCAP use Rust's Unicode tables (modelled for
  ASCII, Latin-1, Cyrillic; compared with Python's on those ranges); POWER/SQRT/LOG/LN/EXP are libm (exact only on perfect powers, otherwise the
  model abstains); that the civil-date functions agree with the calendar is checked against Python's `datetime`
  for every day of 1900..2100; FORMAT_TIME is the human-time crate.
-/
import Fsel.Model.Eval
import Fsel.Lemmas.Civil
import Fsel.Lemmas.Date

namespace Fsel.C16
open Fsel TextL

/-- LENGTH counts characters (not bytes) -/
theorem length_counts_characters (t : Int) (s : Str) (a : List Str) :
    scalarFn t .Length s a = .ok (.ofInt s.length) := rfl

/-- TRIM removes a run of white space at either end and nothing else, and what is left does not end in white space
    (that it does not begin with any is `ltrim_spec` of the same text) -/
theorem trim_spec (s : Str) :
    ∃ pre post, s = pre ++ trim s ++ post ∧ pre.all isWhitespace = true ∧ post.all isWhitespace = true ∧
      (∀ c, (trim s).getLast? = some c → isWhitespace c = false) := by
  obtain ⟨pre, h1, h2, _⟩ := ltrim_spec s
  obtain ⟨post, g1, g2, g3⟩ := rtrim_spec (trimStart s)
  refine ⟨pre, post, ?_, h2, g2, g3⟩
  unfold trim
  rw [List.append_assoc, ← g1, ← h1]

/-! ### SUBSTR -/

theorem substr_default (s : Str) : substring s none 0 = s := by
  simp [substring]

/-- SUBSTR with a position: the text from offset `k`, cut to `n` characters if `n > 0`, where `k` is
    `p - 1` for `p ≥ 1` and `length + p` for `p ≤ 0` -/
theorem substring_drop (s : Str) (p : Int) (n k : Nat)
    (hk : (if p - 1 < 0 then (s.length : Int) - (p - 1).natAbs + 1 else p - 1) = k) :
    substring s (some p) n = if n > 0 then (s.drop k).take n else s.drop k := by
  simp only [substring, Int.ofNat_eq_natCast, hk, Int.toNat_natCast, Int.not_lt.mpr (Int.natCast_nonneg k), if_false]

/-- `SUBSTR(s, p)` with p ≥ 1: everything from the p-th character -/
theorem substr_from (s : Str) (p : Nat) (hp : 1 ≤ p) : substring s (some p) 0 = s.drop (p - 1) :=
  substring_drop s p 0 (p - 1) (by omega)

/-- `SUBSTR(s, p, n)` with p ≥ 1, n ≥ 1: n characters from the p-th -/
theorem substr_from_len (s : Str) (p n : Nat) (hp : 1 ≤ p) (hn : 1 ≤ n) :
    substring s (some p) n = (s.drop (p - 1)).take n :=
  (substring_drop s p n (p - 1) (by omega)).trans (if_pos hn)

/-- `SUBSTR(s, -k)` with 1 ≤ k ≤ length: the last k characters -/
theorem substr_from_end (s : Str) (k : Nat) (hk : 1 ≤ k) (hlen : k ≤ s.length) :
    substring s (some (-(k : Int))) 0 = s.drop (s.length - k) :=
  substring_drop s (-k) 0 (s.length - k) (by omega)

/-- REPLACE (non-empty needle): left to right, each occurrence replaced, scanning resumes after it -/
theorem replace_spec (pat rep : Str) (hp : pat ≠ []) :
    strReplace [] pat rep = [] ∧
    ∀ (c : Char) (r : Str),
      strReplace (c :: r) pat rep =
        if pat.isPrefixOf (c :: r) then rep ++ strReplace ((c :: r).drop pat.length) pat rep
        else c :: strReplace r pat rep := by
  have hne : pat.isEmpty = false := by cases pat <;> simp_all
  constructor
  · simp [strReplace, hne, replaceAll, replaceAll.go]
  · intro c r
    simp only [strReplace, hne, Bool.false_eq_true, if_false, replaceAll]
    rw [List.length_cons, replaceAll.go,
      replaceAll_go_fuel pat rep hp r.length _ _ (length_drop_cons_le pat hp c r) (Nat.le_refl _)]

/-- a needle that does not occur leaves the text unchanged -/
theorem replace_absent (pat rep : Str) (hp : pat ≠ []) :
    ∀ s : Str, (∀ t, t <:+ s → pat.isPrefixOf t = false) → strReplace s pat rep = s
  | [], _ => (replace_spec pat rep hp).1
  | c :: r, h => by
    rw [(replace_spec pat rep hp).2 c r]
    have h1 := h (c :: r) (List.suffix_refl _)
    simp only [h1, Bool.false_eq_true, if_false]
    rw [replace_absent pat rep hp r (fun t ht => h t (List.IsSuffix.trans ht (List.suffix_cons c r)))]

/-! ### CONCAT, CONCAT_WS, COALESCE -/

theorem concat_spec (t : Int) (s : Str) (a : List Str) : scalarFn t .Concat s a = .ok (.ofString (s ++ a.flatten)) := rfl

theorem concat_ws_spec (t : Int) (sep : Str) (a : List Str) : scalarFn t .ConcatWs sep a = .ok (.ofString (joinWith sep a)) := rfl

/-- COALESCE: the first non-empty argument, or an empty value if there is none -/
theorem coalesce_first_nonempty (t : Int) (all : List Str) (s : Str) (a : List Str) (h : all = s :: a) :
    scalarFn t .Coalesce s a =
      .ok (match all.find? (fun x => !x.isEmpty) with | some x => .ofString x | none => .empty .string) := by
  subst h
  cases s with
  | cons c r => rfl
  | nil =>
    unfold scalarFn
    simp only [List.find?_cons]
    cases List.find? (fun x => !List.isEmpty x) a <;> exact rfl

/-! ### base64 -/

/-- the alphabet written out: the kernel's own conversion of the 64-character literal to a list is slow, and would
    be paid again wherever `b64chars` is evaluated -/
theorem b64chars_eq : b64chars =
    ['A', 'B', 'C', 'D', 'E', 'F', 'G', 'H', 'I', 'J', 'K', 'L', 'M', 'N', 'O', 'P', 'Q', 'R', 'S', 'T', 'U', 'V', 'W', 'X',
     'Y', 'Z', 'a', 'b', 'c', 'd', 'e', 'f', 'g', 'h', 'i', 'j', 'k', 'l', 'm', 'n', 'o', 'p', 'q', 'r', 's', 't', 'u', 'v',
     'w', 'x', 'y', 'z', '0', '1', '2', '3', '4', '5', '6', '7', '8', '9', '+', '/'] :=
  String.toList_ofList

/-- the alphabet has 64 different characters and `=` is none of them -/
theorem b64val_chars : ∀ v : Fin 64, b64val (b64chars[v.val]!) = some v.val ∧ b64chars[v.val]! ≠ '=' := by
  unfold b64val
  rw [b64chars_eq]
  decide +kernel

theorem b64val_of (v : Nat) (h : v < 64) : b64val (b64chars[v]!) = some v := (b64val_chars ⟨v, h⟩).1
theorem b64_ne_pad (v : Nat) (h : v < 64) : b64chars[v]! ≠ '=' := (b64val_chars ⟨v, h⟩).2

theorem b64dec_quad (x y z w : Nat) (hx : x < 64) (hy : y < 64) (hz : z < 64) (hw : w < 64) (r : Str) :
    b64dec ([b64chars[x]!, b64chars[y]!, b64chars[z]!, b64chars[w]!] ++ r) =
      (b64dec r).map ([x * 4 + y / 16, y % 16 * 16 + z / 4, z % 4 * 64 + w] ++ ·) := by
  -- the four-character equation holds where the two padded patterns `[a, b, '=', '=']`, `[a, b, c, '=']` do not
  -- apply: here the fourth character is no `=`
  refine (b64dec.eq_4 _ _ _ _ r (fun _ h _ => b64_ne_pad w hw h) (fun h _ => b64_ne_pad w hw h)).trans ?_
  rw [b64val_of x hx, b64val_of y hy, b64val_of z hz, b64val_of w hw]
  cases b64dec r <;> rfl

theorem b64dec_pad1 (x y z : Nat) (hx : x < 64) (hy : y < 64) (hz : z < 64) :
    b64dec [b64chars[x]!, b64chars[y]!, b64chars[z]!, '='] =
      if z % 4 == 0 then some [x * 4 + y / 16, y % 16 * 16 + z / 4] else none := by
  rw [b64dec.eq_3 _ _ _ (b64_ne_pad z hz), b64val_of x hx, b64val_of y hy, b64val_of z hz]

theorem b64dec_pad2 (x y : Nat) (hx : x < 64) (hy : y < 64) :
    b64dec [b64chars[x]!, b64chars[y]!, '=', '='] = if y % 16 == 0 then some [x * 4 + y / 16] else none := by
  rw [b64dec.eq_2, b64val_of x hx, b64val_of y hy]

/-- decoding the encoding of any byte sequence gives it back -/
theorem base64_roundtrip_bytes : ∀ (bs : List Nat), (∀ b ∈ bs, b < 256) → b64dec (b64enc bs) = some bs
  | [], _ => rfl
  | [a], h => by
    have ha : a / 4 < 64 := Nat.div_lt_of_lt_mul (h a (.head _))
    have ha' : a % 4 * 16 < 4 * 16 := Nat.mul_lt_mul_of_pos_right (Nat.mod_lt a (by decide)) (by decide)
    rw [b64enc, b64dec_pad2 _ _ ha ha', Nat.mul_mod_left, Nat.mul_div_cancel _ (by decide), Nat.div_add_mod']
    rfl
  | [a, b], h => by
    have ha : a / 4 < 64 := Nat.div_lt_of_lt_mul (h a (.head _))
    have hb : b / 16 < 16 := Nat.div_lt_of_lt_mul (h b (.tail _ (.head _)))
    have hb' : b % 16 * 4 < 16 * 4 := Nat.mul_lt_mul_of_pos_right (Nat.mod_lt b (by decide)) (by decide)
    rw [b64enc, b64dec_pad1 _ _ _ ha (TextL.mul_add_lt_mul (Nat.mod_lt a (by decide)) hb) hb', Nat.mul_mod_left,
      TextL.mul_add_div_of_lt _ hb, Nat.mul_add_mod_of_lt hb, Nat.mul_div_cancel _ (by decide), Nat.div_add_mod',
      Nat.div_add_mod']
    rfl
  | a :: b :: c :: r, h => by
    -- the sextets are a/4, (a%4, b/16), (b%16, c/64), c%64: each pair is a two-digit number
    have ha : a / 4 < 64 := Nat.div_lt_of_lt_mul (h a (.head _))
    have hb : b / 16 < 16 := Nat.div_lt_of_lt_mul (h b (.tail _ (.head _)))
    have hc : c / 64 < 4 := Nat.div_lt_of_lt_mul (h c (.tail _ (.tail _ (.head _))))
    rw [b64enc, b64dec_quad _ _ _ _ ha (TextL.mul_add_lt_mul (Nat.mod_lt a (by decide)) hb)
        (TextL.mul_add_lt_mul (Nat.mod_lt b (by decide)) hc) (Nat.mod_lt c (by decide)),
      base64_roundtrip_bytes r fun x hx => h x (.tail _ (.tail _ (.tail _ hx))),
      TextL.mul_add_div_of_lt _ hb, Nat.mul_add_mod_of_lt hb, TextL.mul_add_div_of_lt _ hc, Nat.mul_add_mod_of_lt hc,
      Nat.div_add_mod', Nat.div_add_mod', Nat.div_add_mod']
    rfl

/-! ### BIN / HEX / OCT -/

/-- value of a digit `0`–`9`, `a`–`f`.  Not `Fsel.digitVal` (decimal digits, Model/Text): the theorems below write
    `C16.digitVal`. -/
def digitVal (c : Char) : Nat := if c.toNat < 58 then c.toNat - 48 else c.toNat - 87

def valueOf (b : Nat) (ds : Str) : Nat := ds.foldl (fun acc c => acc * b + digitVal c) 0

theorem digitVal_hexDigit (n : Nat) (h : n < 16) : C16.digitVal (hexDigit n) = n := by
  revert n; decide

theorem showBase_value (b : Nat) (hb2 : 2 ≤ b) (hb16 : b ≤ 16) (n : Nat) : valueOf b (showBase b n) = n :=
  (positional hb2 (fun n => by rw [showBase, dif_neg (Nat.not_lt.mpr hb2)]; exact dite_eq_ite ..)
    (fun d h => digitVal_hexDigit d (Nat.lt_of_lt_of_le h hb16)) n).2

theorem showBaseI64_value (b : Nat) (hb2 : 2 ≤ b) (hb16 : b ≤ 16) (v : Int) :
    valueOf b (showBaseI64 b v) = if v ≥ 0 then v.toNat else twoPow64 - v.natAbs := by
  rw [showBaseI64, if_neg (Nat.not_lt.mpr hb2)]
  split <;> exact showBase_value b hb2 hb16 _

/-- the digits BIN, OCT and HEX print for a non-negative `i64` argument denote it, read in base 2, 8 and 16 -/
theorem bin_hex_oct_value (t : Int) (arg : Str) (v : Int) (hv : parseI64? arg = some v) (h0 : 0 ≤ v) :
    (∃ ds, scalarFn t .Bin arg [] = .ok (.ofString ds) ∧ valueOf 2 ds = v.toNat) ∧
    (∃ ds, scalarFn t .Oct arg [] = .ok (.ofString ds) ∧ valueOf 8 ds = v.toNat) ∧
    (∃ ds, scalarFn t .Hex arg [] = .ok (.ofString ds) ∧ valueOf 16 ds = v.toNat) := by
  have hb (b : Nat) (hb2 : 2 ≤ b) (hb16 : b ≤ 16) : valueOf b (showBaseI64 b v) = v.toNat :=
    (showBaseI64_value b hb2 hb16 v).trans (if_pos h0)
  unfold scalarFn
  simp only [hv]
  exact ⟨⟨_, rfl, hb 2 (by decide) (by decide)⟩, ⟨_, rfl, hb 8 (by decide) (by decide)⟩,
    ⟨_, rfl, hb 16 (by decide) (by decide)⟩⟩

/-- a negative argument is printed as 2^64 minus its absolute value: its 64-bit two's complement -/
theorem bin_hex_oct_negative (b : Nat) (hb2 : 2 ≤ b) (hb16 : b ≤ 16) (v : Int) (h0 : v < 0) :
    valueOf b (showBaseI64 b v) = twoPow64 - v.natAbs :=
  (showBaseI64_value b hb2 hb16 v).trans (if_neg (Int.not_le.mpr h0))

/-! ### ABS, LEAST, GREATEST: the arms of `scalarFn` for a first argument that is a number, read off -/

theorem abs_spec (t : Int) (arg : Str) (v : Num) (hv : parseF64? arg = some v) :
    scalarFn t .Abs arg [] = .ok (.ofFloat (if v.sign < 0 then v.neg else v)) := by
  unfold scalarFn
  simp only [hv]

theorem least_spec (t : Int) (arg : Str) (args : List Str) (v : Num) (hv : parseF64? arg = some v) :
    scalarFn t .Least arg args =
      .ok (.ofFloat (args.foldl (fun acc a => match parseF64? a with | some x => numMin acc x | none => acc) v)) := by
  unfold scalarFn
  simp only [hv]
  rfl

theorem greatest_spec (t : Int) (arg : Str) (args : List Str) (v : Num) (hv : parseF64? arg = some v) :
    scalarFn t .Greatest arg args =
      .ok (.ofFloat (args.foldl (fun acc a => match parseF64? a with | some x => numMax acc x | none => acc) v)) := by
  unfold scalarFn
  simp only [hv]
  rfl

/-! ### composition and totality -/

/-- F(G(x)) in an empty memo: G(x) is evaluated first, then F is applied to its value `gv` (the whole variant, with
    no further arguments) in the memo `m1` that evaluation left, and the result is recorded under the call's text -/
theorem composition (cx : EvalCtx) (e? : Option Entry) (F G : Function) (x : Expr) (gv : Variant) (m1 : Memo)
    (hF : F.isAggregate = false)
    (hinner : columnValue cx e? [] (.func false G x []) = .ok (gv, m1)) :
    columnValue cx e? [] (.func false F (.func false G x []) []) =
      match applyFn cx e? F (Expr.func false F (.func false G x []) []).display gv [] true m1 with
      | .error er => .error er
      | .ok (v, m) => .ok (negateIf false v, m.insert (Expr.func false F (.func false G x []) []).display (negateIf false v).text) := by
  -- the empty memo has no entry for the call, F is no aggregate, and the list of further arguments is empty
  rw [columnValue]
  simp only [withMemo, Memo.get?, lookup, hinner, hF, Bool.false_eq_true, if_false, argValues]
  rfl

/-- a call never produces anything but a value, a status-2 diagnostic, or the model's own "not modelled" -/
theorem wrong_kind_total (t : Int) (f : Function) (arg : Str) (args : List Str) :
    (∃ v, scalarFn t f arg args = .ok v) ∨ (∃ m, scalarFn t f arg args = .error (.exit2 m)) ∨
    (∃ w, scalarFn t f arg args = .error (.unsupported w)) := by
  cases h : scalarFn t f arg args with
  | ok v => exact Or.inl ⟨v, rfl⟩
  | error e =>
    cases e with
    | exit2 m => exact Or.inr (Or.inl ⟨m, rfl⟩)
    | unsupported w => exact Or.inr (Or.inr ⟨w, rfl⟩)

/-! ### YEAR, MONTH, DAY, DAYOFWEEK -/

/-- **the date parts of an instant are its civil date**: whenever the argument reads as a date/time whose
    first second is `y-mo-d h:mi:s` (any valid civil date of any year — e.g. a literal, by C13's interval
    theorems, or a column's printed time, by `printed_fields_denote_entry_time`), YEAR, MONTH and DAY return
    y, mo and d, and DAYOFWEEK the weekday of that day number (1 = Sunday; 1970-01-01 was a Thursday).
    Rests on `civil_roundtrip` (civil_from_days ∘ days_from_civil = id). -/
theorem date_parts_spec (today : Int) (arg : Str) (args : List Str) (y : Int) (mo d h mi s : Nat) (b : Int)
    (hv : validCivil y mo d = true) (hh : h < 24) (hm : mi < 60) (hs : s < 60)
    (hp : parseDatetime today arg = .ok (secsOf y mo d h mi s) b) :
    scalarFn today .Year arg args = .ok (.ofInt y) ∧
    scalarFn today .Month arg args = .ok (.ofInt mo) ∧
    scalarFn today .Day arg args = .ok (.ofInt d) ∧
    scalarFn today .DayOfWeek arg args = .ok (.ofInt ((daysFromCivil y mo d + 4) % 7 + 1)) := by
  obtain ⟨h1, _⟩ := DateL.secsOf_split y mo d hh hm hs
  unfold scalarFn
  simp only [hp, h1, CivilL.civil_roundtrip y mo d hv, and_self]

/-- a concrete check of the weekday formula: 1970-01-01 (day 0) is a Thursday = 5, 2024-02-29 a Thursday too,
    2023-12-31 a Sunday = 1 -/
example : ((0 : Int) + 4) % 7 + 1 = 5 ∧ (daysFromCivil 2024 2 29 + 4) % 7 + 1 = 5 ∧ (daysFromCivil 2023 12 31 + 4) % 7 + 1 = 1 := by decide

/-- an argument that is no date gives an empty value, never an error -/
theorem date_parts_of_garbage (today : Int) (arg : Str) (args : List Str) (hp : parseDatetime today arg = .err) :
    scalarFn today .Year arg args = .ok (.empty .int) ∧ scalarFn today .DayOfWeek arg args = .ok (.empty .int) := by
  unfold scalarFn
  simp only [hp, and_self]

/-- a concrete check: SUBSTR from the front and from the end, REPLACE resuming after an occurrence, base64 -/
example : substring (ofS "abcdef") (some 2) 3 = ofS "bcd" ∧ substring (ofS "abcdef") (some (-2)) 0 = ofS "ef" ∧
    strReplace (ofS "aaa") (ofS "aa") (ofS "b") = ofS "ba" ∧ b64enc [104, 105] = ofS "aGk=" := by
  simp only [b64enc, b64chars_eq]
  decide +kernel

end Fsel.C16
