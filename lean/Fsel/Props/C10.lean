/-
  C10  Any command line terminates with status 0, 1 or 2 — never a crash or a hang.

  Model: the lexer and the parser (`Lexer.lean`, `Parser.lean`, `ParserTop.lean`).
  Idea: totality is carried by the types.  `scan`, `nextLexem`, `lexLoop`, the 14 mutually recursive expression
  parsers and the clause loops (`iterate`) are accepted by Lean's termination checker with explicit measures — a
  faithful model of the pre-fix code (`fselect /`, D25) is *not definable* that way; the result type of the parser
  has no `panic`/`hang` constructor (D20–D25 fixed), so a parse ends in a query, an error message, or the model's
  own `unsupported`; every sub-parser makes strict progress on success and on failure, which is the invariant that
  makes the select-list loop terminate.  The `*_rejected` theorems are about the clause parsers (`orderStep`,
  `parseLimit`, `parseOutputFormat`, `parseParen`, `parseTokens []`), each returning the message the code prints.
  Not theorems: the exit status itself, the diagnostic on standard error, that a parse-time rejection prints no
  result row, the rejections at evaluation time (bad regular expression, date, boolean or function argument) and a
  dangling or unknown operator are left to the in-process parser correspondence and the command-line sweep.
-/
import Fsel.Model.ParserTop

namespace Fsel.C10
open Fsel

/-- Parsing any argument vector yields a query, an error message, or the model's own `unsupported` (an input the model
    does not cover); there is no further outcome — in particular no panic and no non-termination: `parseQuery` is a
    total function. -/
theorem parse_outcomes (parts : List Str) :
    (∃ q, parseQuery parts = .ok q) ∨ (∃ m, parseQuery parts = .error (.msg m)) ∨
    (∃ w, parseQuery parts = .error (.unsupported w)) := by
  cases h : parseQuery parts with
  | ok q => exact Or.inl ⟨q, rfl⟩
  | error e =>
    cases e with
    | msg m => exact Or.inr (Or.inl ⟨m, rfl⟩)
    | unsupported w => exact Or.inr (Or.inr ⟨w, rfl⟩)

/-- An expression parse started on a non-empty token list always consumes at least one token,
    whether it succeeds or fails (the D25 invariant). -/
theorem parseExpr_progress (bs : Bool) (ts : List Lexem) (h : ts ≠ []) :
    (parseExpr bs ts).rest.length < ts.length :=
  (parseExpr bs ts).progress rfl h

/-- The select-list loop cannot spin: each step either finishes or strictly shortens the input. -/
theorem fields_step_progress (acc : List Expr) (ts : List Lexem) :
    match fieldsStep acc ts with
    | .more _ r _ => r.length < ts.length
    | .done _ r => r.1.length ≤ ts.length := by
  cases h : fieldsStep acc ts with
  | more s r hr => exact hr
  | done res r => exact r.2

/-- an empty token list is rejected: there is no column -/
theorem no_column_rejected :
    parseTokens [] = .error (.msg "Error parsing fields, no selector found") := by
  simp [parseTokens, parseFields, iterate, fieldsStep]

theorem limit_non_numeric_rejected (s : Str) (r : List Lexem) (h : parseU32? s = none) :
    (parseLimit (.limit :: .raw s :: r)).1 = .error (.msg "Error parsing limit") := by
  simp [parseLimit, h]

theorem limit_missing_rejected : (parseLimit [.limit]).1 = .error (.msg "Error parsing limit, limit value not found") := by
  simp [parseLimit]

theorem unknown_format_rejected (s : Str) (r : List Lexem) (h : OutputFormat.ofStr? s = none) :
    (parseOutputFormat (.into :: .raw s :: r)).1 = .error (.msg "Unknown output format") := by
  simp [parseOutputFormat, h]

/-- out-of-range or zero ORDER BY position ⇒ rejected (D20, fixed) -/
theorem order_position_rejected (fields : List Expr) (st : List Expr × List Bool) (s : Str) (r : List Lexem)
    (idx : Nat) (hs : parseUsize? s = some idx) (hr : idx = 0 ∨ fields.length < idx) :
    ∃ rest, orderStep fields st (.raw s :: r) =
      .done (.error (.msg "Error parsing ORDER BY, position is out of range")) rest := by
  unfold orderStep
  simp only [hs]
  by_cases h0 : idx = 0
  · subst h0; exact ⟨_, rfl⟩
  · have hlt := hr.resolve_left h0
    have : fields[idx - 1]? = none := List.getElem?_eq_none (by omega)
    simp [h0, this]

/-- a misplaced DESC (no key before it) ⇒ rejected (D21, fixed) -/
theorem order_desc_first_rejected (fields : List Expr) (fs : List Expr) (r : List Lexem) :
    ∃ rest, orderStep fields (fs, []) (.desc :: r) =
      .done (.error (.msg "Error parsing ORDER BY, DESC without a field")) rest := by
  unfold orderStep; exact ⟨_, rfl⟩

/-- unbalanced round bracket ⇒ rejected, whatever follows -/
theorem unbalanced_open_rejected (bs : Bool) (ts : List Lexem)
    (h : ∀ r3, (parseExpr bs ts).rest ≠ .close :: r3) :
    (parseParen bs (.open_ :: ts)).res = .error (.msg "Unmatched parenthesis") := by
  rw [parseParen]
  generalize hp : parseExpr bs ts = p at h
  obtain ⟨res, r2, h2, h3⟩ := p
  cases r2 with
  | nil => rfl
  | cons x xs =>
    cases x <;> first | rfl | (exact absurd rfl (h xs))

/-- the hypothesis of `unbalanced_open_rejected` is satisfiable: a lone `(` at end of input -/
example : (parseParen false [.open_]).res = .error (.msg "Unmatched parenthesis") := by
  apply unbalanced_open_rejected
  intro r3 h
  have := (parseExpr false []).le
  rw [h] at this
  simp at this

end Fsel.C10
