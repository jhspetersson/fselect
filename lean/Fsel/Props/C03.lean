/-
  C03  AND / OR / NOT and brackets obey Boolean algebra over the result sets.

  Model: `Expr.negate` (= `negate_expr_op`, De Morgan since the D07 fix), the generated `Op.negate`
  table (complement pairs since the D06 fix), BETWEEN desugaring (D08 fix), `conforms`.
  Idea: three layers.  Syntax: negation is an involution and pushes through connectives by De Morgan; `not between`
  is the negation of `between`.  Semantics: `A and B` / `A or B` yield the conjunction / disjunction of the two
  results of `conforms` (short-circuit only suppresses evaluation); `negate_complement`: if every comparison atom
  of a condition satisfies `AtomNegOK` (its negated operator yields the negated verdict on this entry), the negated
  condition yields the negated verdict — stated of `verdict`, a cache-free copy of `conforms` defined in this file.
  That an operator and its negation are complementary is proved of the comparison itself (verdict, cache and
  errors): `ordering_negate` for the ordering and equality operators on a left operand of every type but text,
  `CompareL.text_negate` for every operator on text, `ordering_atom_lifts` carrying the former to atoms.
  Hypothesis kept explicit: a comparison involving NaN answers false under an operator and under its negation
  (`nan_counterexample`).  Parsing: `condition_parse_correct` (from `parse_X` of Lemmas/ParseCond) — for EVERY
  derivation of
        X ::= Y (or Y)*     Y ::= Z (and Z)*     Z ::= not* ( atom | "(" X ")" | "{" X "}" )
  parsing its token sequence yields the tree the derivation denotes and leaves exactly the tokens that follow:
  AND binds tighter than OR, brackets (round or curly) override, a run of prefix NOTs negates by parity.
  `column op literal`, `e1 not op e2` and both BETWEEN forms are atoms of that grammar.
  Not theorems: no theorem ties `verdict` to `conforms` (the regex cache is transparent only for text against text,
  `C12.cache_transparent`), nor `AtomNegOK` to the per-type complement lemmas once the operands are evaluated.
  That the *result sets* of `A and B`, `A or B`, `not A` are the intersection, union and complement is left to the
  correspondence and the set-algebra oracle.
-/
import Fsel.Model.Eval
import Fsel.Lemmas.ParseCond
import Fsel.Props.C15
import Fsel.Props.C02

namespace Fsel.C03
open Fsel

theorem op_negate_involutive : ∀ o : Op, o.negate.negate = o := by
  intro o; cases o <;> rfl

theorem dual_involutive : ∀ o : LogicalOp, o.dual.dual = o := by
  intro o; cases o <;> rfl

theorem beq_and_and : (LogicalOp.And == LogicalOp.And) = true := C02.and_beq_and
theorem beq_or_and : (LogicalOp.Or == LogicalOp.And) = false := rfl

/-- double negation is the identity -/
theorem negate_involutive (x : Expr) : x.negate.negate = x := by
  fun_induction Expr.negate x with
  | case1 l op r ihl ihr => rw [Expr.negate, ihl, ihr, dual_involutive]
  | case2 l op r => rw [Expr.negate, op_negate_involutive]
  | case3 e h1 h2 =>
    cases e <;> first | rfl | exact absurd rfl (h1 _ _ _) | exact absurd rfl (h2 _ _ _)

theorem de_morgan_and (a b : Expr) : (Expr.logic a .And b).negate = .logic a.negate .Or b.negate := rfl
theorem de_morgan_or (a b : Expr) : (Expr.logic a .Or b).negate = .logic a.negate .And b.negate := rfl

/-- the two desugarings of BETWEEN produced by the parser (`parse_cond`) -/
def between (x a b : Expr) : Expr := .logic (.cmp x .Gte a) .And (.cmp x .Lte b)
def notBetween (x a b : Expr) : Expr := .logic (.cmp x .Lt a) .Or (.cmp x .Gt b)

theorem not_between_is_negated_between (x a b : Expr) : (between x a b).negate = notBetween x a b := rfl

def CmpRes.not : CmpRes → CmpRes
  | .val b => .val (!b)
  | .uncertain => .uncertain

/-- a connective yields `CmpRes.and` / `CmpRes.or` of the two results, uncertain ones included: where the
    right side is not evaluated, the left result alone already is that value -/
theorem logic_sem (cx : EvalCtx) (e : Entry) (c : RxCache) (a b : Expr) (op : LogicalOp) (ra rb : CmpRes)
    (c1 c2 : RxCache) (ha : conforms cx e c a = .ok (ra, c1)) (hb : conforms cx e c1 b = .ok (rb, c2)) :
    ∃ c', conforms cx e c (.logic a op b) = .ok (if op == .And then ra.and rb else ra.or rb, c') := by
  simp only [conforms, ha]
  split
  · exact ⟨c1, rfl⟩
  · exact ⟨c1, rfl⟩
  · simp only [hb]
    exact ⟨c2, rfl⟩

/-- `A and B`: false as soon as A is false, otherwise the verdict of B — i.e. the conjunction -/
theorem conj_sem (cx : EvalCtx) (e : Entry) (c : RxCache) (a b : Expr) (va vb : Bool) (c1 c2 : RxCache)
    (ha : conforms cx e c a = .ok (.val va, c1)) (hb : conforms cx e c1 b = .ok (.val vb, c2)) :
    ∃ c', conforms cx e c (.logic a .And b) = .ok (.val (va && vb), c') := by
  obtain ⟨c', h⟩ := logic_sem cx e c a b .And _ _ c1 c2 ha hb
  exact ⟨c', by rw [h]; cases va <;> rfl⟩

/-- `A or B` is the disjunction -/
theorem disj_sem (cx : EvalCtx) (e : Entry) (c : RxCache) (a b : Expr) (va vb : Bool) (c1 c2 : RxCache)
    (ha : conforms cx e c a = .ok (.val va, c1)) (hb : conforms cx e c1 b = .ok (.val vb, c2)) :
    ∃ c', conforms cx e c (.logic a .Or b) = .ok (.val (va || vb), c') := by
  obtain ⟨c', h⟩ := logic_sem cx e c a b .Or _ _ c1 c2 ha hb
  exact ⟨c', by rw [h]; cases va <;> rfl⟩

/-- cache-free verdict of a condition: `conforms` without the regex cache.  No theorem ties the two (the cache is
    proved transparent only for text against text, `C12.cache_transparent`). -/
def verdict (cx : EvalCtx) (e : Entry) : Expr → EM CmpRes
  | .logic l op r =>
    match verdict cx e l with
    | .error er => .error er
    | .ok lv =>
      match op, lv with
      | .And, .val false => .ok (.val false)
      | .Or, .val true => .ok (.val true)
      | _, _ =>
        match verdict cx e r with
        | .error er => .error er
        | .ok rv => .ok (if op == .And then lv.and rv else lv.or rv)
  | .cmp l op r =>
    match columnValue cx (some e) [] l with
    | .error er => .error er
    | .ok (fv, _) =>
      match columnValue cx (some e) [] r with
      | .error er => .error er
      | .ok (v, _) => (compareAtom cx.cfg.today [] fv op v).map (·.1)
  | _ => .ok (.val false)

/-- a comparison atom whose negated operator yields the negated verdict on this entry -/
def AtomNegOK (cx : EvalCtx) (e : Entry) (l : Expr) (op : Op) (r : Expr) : Prop :=
  verdict cx e (.cmp l op.negate r) = (verdict cx e (.cmp l op r)).map CmpRes.not

/-- all comparison atoms of a condition are well-behaved under negation, and the condition consists of
    connectives and comparisons only -/
def AtomsNegOK (cx : EvalCtx) (e : Entry) : Expr → Prop
  | .logic l _ r => AtomsNegOK cx e l ∧ AtomsNegOK cx e r
  | .cmp l op r => AtomNegOK cx e l op r
  | _ => False

theorem not_and (a b : CmpRes) : CmpRes.not (a.and b) = (CmpRes.not a).or (CmpRes.not b) := by
  rcases a with (_ | _) | _ <;> rcases b with (_ | _) | _ <;> rfl

theorem not_or (a b : CmpRes) : CmpRes.not (a.or b) = (CmpRes.not a).and (CmpRes.not b) := by
  rcases a with (_ | _) | _ <;> rcases b with (_ | _) | _ <;> rfl

/-- NOT returns exactly what the condition rejects: the `verdict` of the negated condition is the negated
    `verdict` (including which side effects — errors — occur, because De Morgan preserves short-circuiting) -/
theorem negate_complement (cx : EvalCtx) (e : Entry) (x : Expr) (h : AtomsNegOK cx e x) :
    verdict cx e x.negate = (verdict cx e x).map CmpRes.not := by
  fun_induction Expr.negate x with
  | case1 l op r ihl ihr =>
    simp only [verdict, ihl h.1, ihr h.2]
    -- De Morgan on the two sub-verdicts: once the left one is known both sides take the same branch
    rcases verdict cx e l with er | lv
    · rfl
    rcases verdict cx e r with er | rv
    · cases op <;> rcases lv with (_ | _) | _ <;> rfl
    · cases op with
      | And =>
        have key := (not_and lv rv).symm
        rcases lv with (_ | _) | _ <;> exact congrArg Except.ok key
      | Or =>
        have key := (not_or lv rv).symm
        rcases lv with (_ | _) | _ <;> exact congrArg Except.ok key
  | case2 l op r => exact h
  | case3 x h1 h2 =>
    cases x <;> first | exact False.elim h | exact absurd rfl (h1 _ _ _) | exact absurd rfl (h2 _ _ _)

/-- operators of the numeric / boolean / date comparison tables -/
def orderingOp (op : Op) : Bool :=
  match op with
  | .Eq | .Ne | .Eeq | .Ene | .Gt | .Gte | .Lt | .Lte => true
  | _ => false

/-- operators of the text comparison table -/
def textOp (op : Op) : Bool :=
  match op with
  | .Eq | .Ne | .Eeq | .Ene | .Rx | .NotRx | .Like | .NotLike => true
  | _ => false

theorem numCmp_negate (op : Op) (h : orderingOp op = true) (o : Ordering) :
    ∃ b, numCmp op (some o) = some b ∧ numCmp op.negate (some o) = some (!b) := by
  cases op <;> cases h <;> cases o <;> exact ⟨_, rfl, rfl⟩

theorem orderingOp_negate (op : Op) (h : orderingOp op = true) : orderingOp op.negate = true := by
  cases op <;> cases h <;> rfl

theorem fst_of_negate {x y : EM (CmpRes × RxCache)} (h : x = y.map (fun r => (CmpRes.not r.1, r.2))) :
    x.map (·.1) = (y.map (·.1)).map CmpRes.not := by
  rw [h]
  cases y <;> rfl

/-- the verdict the numeric branches of `compareValues` make of the table's answer -/
theorem numVerdict_negate (c : RxCache) (op : Op) (h : orderingOp op = true) (o : Ordering) :
    (match numCmp op.negate (some o) with
      | some b => .ok (.val b, c)
      | none => .ok (.val false, c) : EM (CmpRes × RxCache)) =
    (match numCmp op (some o) with
      | some b => .ok (.val b, c)
      | none => .ok (.val false, c) : EM (CmpRes × RxCache)).map (fun r => (CmpRes.not r.1, r.2)) := by
  obtain ⟨b, hb, hn⟩ := numCmp_negate op h o
  rw [hb, hn]
  rfl

/-- **every ordering / equality operator and its negation are complementary on a left operand of any type but
    text**, with the same cache and the same errors, unless a NaN is compared (then both answer false,
    `nan_counterexample`).  Integers, floats and booleans go through the numeric table; a time is compared
    with the literal's interval. -/
theorem ordering_negate (today : Int) (c : RxCache) (fv v : Variant) (op : Op) (hty : fv.ty ≠ .string)
    (h : orderingOp op = true)
    (hi : fv.ty = .int → ∃ o, (Num.ofInt fv.toInt).cmp? v.toFloat = some o)
    (hf : fv.ty = .float → ∃ o, fv.toFloat.cmp? v.toFloat = some o) :
    compareValues today c fv op.negate v = (compareValues today c fv op v).map (fun r => (CmpRes.not r.1, r.2)) := by
  cases hty' : fv.ty with
  | string => exact absurd hty' hty
  | int =>
    obtain ⟨o, ho⟩ := hi hty'
    simp only [compareValues, hty']
    split
    · -- a literal with a fraction: uncertain if inexact, else the table on `cmp?`
      split
      · rfl
      · rw [ho]
        exact numVerdict_negate c op h o
    · -- an integral literal: uncertain if inexact, else the table on `intOrd`
      split
      · rfl
      · exact numVerdict_negate c op h _
  | float =>
    obtain ⟨o, ho⟩ := hf hty'
    simp only [compareValues, hty']
    -- uncertain if anything is inexact, else the table on `cmp?`
    split
    · rfl
    · rw [ho]
      exact numVerdict_negate c op h o
  | bool =>
    simp only [compareValues, hty']
    -- both sides parse as booleans (compared as 1 and 0), or the same error
    split
    · exact numVerdict_negate c op h _
    · rfl
  | datetime =>
    simp only [compareValues, hty']
    -- a bad literal, a time against the literal's interval `[start, finish]`, or a variant without a time
    split
    · rfl
    · -- operator by operator, the condition on `dt` and that of the negated operator are complementary
      cases op <;> cases h
      all_goals
        simp only [Op.negate, Except.map, CmpRes.not]
        congr 3 <;> apply Bool.eq_iff_iff.mpr <;> simp <;> omega
    · rfl

/-- integer-typed left operand (size, uid, hardlinks, LENGTH(..), …): every ordering operator and its
    negation are complementary, unless the literal is NaN (then both answer false) -/
theorem int_compare_neg (today : Int) (fv v : Variant) (op : Op) (hty : fv.ty = .int) (h : orderingOp op = true)
    (hnan : ∃ o, (Num.ofInt fv.toInt).cmp? v.toFloat = some o) :
    (compareValues today [] fv op.negate v).map (·.1) = ((compareValues today [] fv op v).map (·.1)).map CmpRes.not :=
  fst_of_negate (ordering_negate today [] fv v op (fun h' => nomatch hty.symm.trans h') h (fun _ => hnan)
    (fun h' => nomatch hty.symm.trans h'))

/-- the NaN hypothesis cannot be dropped: `> NaN` and its negation `<= NaN` are both false -/
theorem nan_counterexample : numCmp .Gt none = some false ∧ numCmp Op.Gt.negate none = some false := by
  constructor <;> rfl

/-- date-typed left operand (modified): the interval semantics of each operator and of its negation
    are complementary for every time and every literal interval -/
theorem datetime_compare_neg (today : Int) (fv v : Variant) (op : Op) (hty : fv.ty = .datetime) (h : orderingOp op = true)
    (t : Int) (ht : fv.dt? = some t) :
    (compareValues today [] fv op.negate v).map (·.1) = ((compareValues today [] fv op v).map (·.1)).map CmpRes.not :=
  fst_of_negate (ordering_negate today [] fv v op (fun h' => nomatch hty.symm.trans h') h
    (fun h' => nomatch hty.symm.trans h') (fun h' => nomatch hty.symm.trans h'))

theorem text_verdict_negate (today : Int) (fv v : Variant) (op : Op) (hty : fv.ty = .string)
    (hop : op ≠ .Between ∧ op ≠ .NotBetween) :
    (compareValues today [] fv op.negate v).map (·.1) = ((compareValues today [] fv op v).map (·.1)).map CmpRes.not :=
  fst_of_negate (CompareL.text_negate CmpRes.not (fun _ => rfl) today [] fv v op hty hop)

/-- text-typed left operand with the plain (non-pattern) operators: `=`/`!=` without wildcard and
    `===`/`!==` are complementary -/
theorem text_compare_neg_plain (today : Int) (fv v : Variant) (hty : fv.ty = .string) (hg : isGlob v.text = false) :
    (compareValues today [] fv Op.Eq.negate v).map (·.1) = ((compareValues today [] fv .Eq v).map (·.1)).map CmpRes.not ∧
    (compareValues today [] fv Op.Eeq.negate v).map (·.1) = ((compareValues today [] fv .Eeq v).map (·.1)).map CmpRes.not :=
  ⟨text_verdict_negate today fv v .Eq hty ⟨Op.noConfusion, Op.noConfusion⟩,
    text_verdict_negate today fv v .Eeq hty ⟨Op.noConfusion, Op.noConfusion⟩⟩

/-- ordering operators on text (lexicographic order, D73 fix): `>`/`<=` and `>=`/`<` are complementary
    for every pair of texts: what `AtomNegOK` asks of ordering atoms over text columns -/
theorem text_ordering_neg (today : Int) (fv v : Variant) (hty : fv.ty = .string) (op : Op)
    (h : op = .Gt ∨ op = .Gte ∨ op = .Lt ∨ op = .Lte) :
    (compareValues today [] fv op.negate v).map (·.1) = ((compareValues today [] fv op v).map (·.1)).map CmpRes.not :=
  text_verdict_negate today fv v op hty
    (by rcases h with h | h | h | h <;> subst h <;> exact ⟨Op.noConfusion, Op.noConfusion⟩)

/-- the order is the code-point order: a text is below another exactly when it is a proper prefix or
    smaller at the first difference -/
example : strLt (ofS "a10") (ofS "a9") = true ∧ strLe (ofS "b") (ofS "b") = true ∧ strLt (ofS "b") (ofS "b") = false := by decide

/-- pattern operators on a column of ANY type (D74 fix: they match the text of the value): `like` /
    `not like` and `=~` / `!=~` are complementary whatever the left value's type: what `AtomNegOK` asks of
    such atoms -/
theorem pattern_neg_any_type (today : Int) (fv v : Variant) (op : Op) (hp : op = .Like ∨ op = .Rx)
    (hex : fv.exact = true) :
    (compareAtom today [] fv op.negate v).map (·.1) = ((compareAtom today [] fv op v).map (·.1)).map CmpRes.not := by
  have hneg : patternOp op.negate = true := by rcases hp with h | h <;> subst h <;> rfl
  have hpos : patternOp op = true := by rcases hp with h | h <;> subst h <;> rfl
  rw [C02.pattern_on_any_type today [] fv v op.negate hneg hex, C02.pattern_on_any_type today [] fv v op hpos hex]
  exact text_verdict_negate today _ _ op rfl
    (by rcases hp with h | h <;> subst h <;> exact ⟨Op.noConfusion, Op.noConfusion⟩)

/-- the per-type complement lemmas above speak about the typed comparison; an atom with an ordering /
    equality operator *is* the typed comparison (only pattern operators are re-typed), so they carry
    over to atoms as evaluated by `conforms` -/
theorem ordering_atom_lifts (today : Int) (fv v : Variant) (op : Op) (h : orderingOp op = true)
    (H : (compareValues today [] fv op.negate v).map (·.1) = ((compareValues today [] fv op v).map (·.1)).map CmpRes.not) :
    (compareAtom today [] fv op.negate v).map (·.1) = ((compareAtom today [] fv op v).map (·.1)).map CmpRes.not := by
  have h1 : patternOp op = false := by cases op <;> cases h <;> rfl
  have h2 : patternOp op.negate = false := by cases op <;> cases h <;> rfl
  rw [C02.atom_is_typed_comparison today [] fv v op.negate (Or.inl h2), C02.atom_is_typed_comparison today [] fv v op (Or.inl h1)]
  exact H

/-! ### the condition parser -/

open ParseL ParseC in
/-- **the condition parser implements the Boolean grammar** -/
theorem condition_parse_correct (bs : Bool) (x : X) (h : x.WF bs) (rest : List Lexem) (hrest : StopOr rest) :
    (parseExpr bs (x.toks ++ rest)).res = .ok x.tree ∧ (parseExpr bs (x.toks ++ rest)).rest = rest :=
  parse_X bs x h rest _ hrest rfl

open ParseL ParseC in
/-- `column op literal` is an atomic condition (any number of NOTs in front negate the operator by parity) -/
theorem comparison_is_atom (c o l : Str) (f : Field) (op : Op)
    (hf : Field.ofStr? c = some f) (hfb : f.isBoolean = false) (ho : Op.ofStr? o = some op) (hnb : (lowerStr o == ofS "between") = false)
    (hl1 : Field.ofStr? l = none) (hl2 : Function.ofStr? l = none) :
    AtomCond true [.raw c, .op o, .raw l] (.cmp (.field false f) op (.val false l)) :=
  C02.comparison_of_expressions true
    (.mk (.mk (.atom [.raw c] (.field false f)) .nil) .nil) (.mk (.mk (.atom [.raw l] (.val false l)) .nil) .nil)
    ⟨⟨C15.atom_column true c f hf, trivial⟩, trivial⟩ ⟨⟨C15.atom_literal true l hl1 hl2, trivial⟩, trivial⟩
    (by simp [E.toks, T.toks, F.toks]) (by simp [E.toks, T.toks, F.toks, TTail.toks, ETail.toks]) o op ho hnb false

theorem parseExpr_res_congr (bs : Bool) {ts ts' : List Lexem} (h : ts = ts') : (parseExpr bs ts).res = (parseExpr bs ts').res := by
  subst h; rfl

section instances
open ParseL ParseC
variable (bs : Bool) (a b c : List Lexem) (x y z : Expr)

/-- `a or b and c` -/
def orAnd : X := .mk (.mk (.atom 0 a x) .nil) (.cons (.mk (.atom 0 b y) (.cons (.atom 0 c z) .nil)) .nil)
/-- `( a or b ) and c` -/
def bracketOrAnd : X := .mk (.mk (.paren 0 (.mk (.mk (.atom 0 a x) .nil) (.cons (.mk (.atom 0 b y) .nil) .nil))) (.cons (.atom 0 c z) .nil)) .nil
/-- `not ( a and b )` -/
def notBracketAnd : X := .mk (.mk (.paren 1 (.mk (.mk (.atom 0 a x) (.cons (.atom 0 b y) .nil)) .nil)) .nil) .nil

theorem orAnd_toks : (orAnd a b c x y z).toks = a ++ .or_ :: (b ++ .and_ :: c) := by
  simp [orAnd, X.toks, Y.toks, Z.toks, XTail.toks, YTail.toks, nots]
theorem bracketOrAnd_toks : (bracketOrAnd a b c x y z).toks = .open_ :: (a ++ .or_ :: b ++ [.close]) ++ .and_ :: c := by
  simp [bracketOrAnd, X.toks, Y.toks, Z.toks, XTail.toks, YTail.toks, nots]
theorem notBracketAnd_toks : (notBracketAnd a b x y).toks = .not_ :: .open_ :: (a ++ .and_ :: b ++ [.close]) := by
  simp [notBracketAnd, X.toks, Y.toks, Z.toks, XTail.toks, YTail.toks, nots]

/-- AND binds tighter than OR: `a or b and c` is `a or (b and c)`; tokens `a ++ or :: (b ++ and :: c)` (`orAnd_toks`) -/
theorem and_binds_tighter (ha : AtomCond bs a x) (hb : AtomCond bs b y) (hc : AtomCond bs c z)
    (rest : List Lexem) (hrest : StopOr rest) :
    (parseExpr bs ((orAnd a b c x y z).toks ++ rest)).res = .ok (.logic x .Or (.logic y .And z)) :=
  (parse_X bs (orAnd a b c x y z) ⟨⟨ha, trivial⟩, ⟨hb, hc, trivial⟩, trivial⟩ rest _ hrest rfl).1

/-- brackets override: `( a or b ) and c` keeps the disjunction together; tokens
    `( :: (a ++ or :: b ++ [)]) ++ and :: c` (`bracketOrAnd_toks`) -/
theorem brackets_override_precedence (ha : AtomCond bs a x) (hb : AtomCond bs b y) (hc : AtomCond bs c z)
    (hbool : boolShorthand bs (.logic x .Or y) = .logic x .Or y) (rest : List Lexem) (hrest : StopOr rest) :
    (parseExpr bs ((bracketOrAnd a b c x y z).toks ++ rest)).res = .ok (.logic (.logic x .Or y) .And z) :=
  (parse_X bs (bracketOrAnd a b c x y z) ⟨⟨⟨⟨⟨ha, trivial⟩, ⟨hb, trivial⟩, trivial⟩, hbool⟩, hc, trivial⟩, trivial⟩
    rest _ hrest rfl).1

/-- `{ a or b } and c`: curly brackets group exactly like round ones -/
def curlyOrAnd : X := .mk (.mk (.cparen 0 (.mk (.mk (.atom 0 a x) .nil) (.cons (.mk (.atom 0 b y) .nil) .nil))) (.cons (.atom 0 c z) .nil)) .nil

theorem curlyOrAnd_toks : (curlyOrAnd a b c x y z).toks = .copen :: (a ++ .or_ :: b ++ [.cclose]) ++ .and_ :: c := by
  simp [curlyOrAnd, X.toks, Y.toks, Z.toks, XTail.toks, YTail.toks, nots]

/-- **round = curly** for conditions: the grammar has both bracket kinds (`Z.paren`, `Z.cparen`), they denote
    the same tree, and `condition_parse_correct` covers derivations that use either, nested in any way -/
theorem curly_is_round (k : Nat) (f : X) : (Z.cparen k f).tree = (Z.paren k f).tree := rfl

/-- `{ a or b } and c`: curly brackets override like round ones; tokens `{ :: (a ++ or :: b ++ [}]) ++ and :: c`
    (`curlyOrAnd_toks`) -/
theorem curly_brackets_override_precedence (ha : AtomCond bs a x) (hb : AtomCond bs b y) (hc : AtomCond bs c z)
    (hbool : boolShorthand bs (.logic x .Or y) = .logic x .Or y) (rest : List Lexem) (hrest : StopOr rest) :
    (parseExpr bs ((curlyOrAnd a b c x y z).toks ++ rest)).res = .ok (.logic (.logic x .Or y) .And z) :=
  (parse_X bs (curlyOrAnd a b c x y z) ⟨⟨⟨⟨⟨ha, trivial⟩, ⟨hb, trivial⟩, trivial⟩, hbool⟩, hc, trivial⟩, trivial⟩
    rest _ hrest rfl).1

/-- NOT in front of a bracket is pushed through it by De Morgan: `not ( a and b )` is `(not a) or (not b)`; tokens
    `not :: ( :: (a ++ and :: b ++ [)])` (`notBracketAnd_toks`) -/
theorem not_bracket_is_de_morgan (ha : AtomCond bs a x) (hb : AtomCond bs b y)
    (hbool : boolShorthand bs (.logic x .And y) = .logic x .And y) (rest : List Lexem) (hrest : StopOr rest) :
    (parseExpr bs ((notBracketAnd a b x y).toks ++ rest)).res = .ok (.logic x.negate .Or y.negate) :=
  (parse_X bs (notBracketAnd a b x y) ⟨⟨⟨⟨⟨ha, hb, trivial⟩, trivial⟩, hbool⟩, trivial⟩, trivial⟩ rest _ hrest rfl).1

end instances

/-- a concrete formula on real tokens: `size > 1 or size < 5 and name = x` -/
example : (parseExpr true [.raw (ofS "size"), .op ['>'], .raw ['1'], .or_, .raw (ofS "size"), .op ['<'], .raw ['5'], .and_,
      .raw (ofS "name"), .op ['='], .raw ['x']]).res =
    .ok (.logic (.cmp (.field false .Size) .Gt (.val false ['1'])) .Or
          (.logic (.cmp (.field false .Size) .Lt (.val false ['5'])) .And (.cmp (.field false .Name) .Eq (.val false ['x'])))) := by
  have a := comparison_is_atom (ofS "size") ['>'] ['1'] .Size .Gt (by decide +kernel) (by decide +kernel) (by decide +kernel) (by decide +kernel) (by decide +kernel) (by decide +kernel)
  have b := comparison_is_atom (ofS "size") ['<'] ['5'] .Size .Lt (by decide +kernel) (by decide +kernel) (by decide +kernel) (by decide +kernel) (by decide +kernel) (by decide +kernel)
  have c := comparison_is_atom (ofS "name") ['='] ['x'] .Name .Eq (by decide +kernel) (by decide +kernel) (by decide +kernel) (by decide +kernel) (by decide +kernel) (by decide +kernel)
  exact and_binds_tighter true _ _ _ _ _ _ a b c [] trivial

open ParseL ParseC in
/-- `e1 not OP e2` (e.g. `name not like '%.rs'`) is an atomic condition denoting the negated operator; with
    `k` prefix NOTs in front the result is negated again by parity (`AtomCond` quantifies over `k`) -/
theorem infix_not_is_atom (bs : Bool) (e1 e2 : E) (h1 : e1.WF bs) (h2 : e2.WF bs)
    (hne : e1.toks ≠ []) (hn : e1.toks.head? ≠ some .not_)
    (o : Str) (op : Op) (ho : Op.ofStr? o = some op) (hnb : (lowerStr o == ofS "between") = false) :
    AtomCond bs (e1.toks ++ (.not_ :: .op o :: e2.toks)) (.cmp e1.tree op.negate e2.tree) :=
  C02.comparison_of_expressions bs e1 e2 h1 h2 hne hn o op ho hnb true

open ParseL ParseC in
/-- `x between lo and hi` and `x not between lo and hi` are atomic conditions denoting
    `x >= lo and x <= hi` and its De Morgan dual `x < lo or x > hi` -/
theorem between_forms_are_atoms (bs : Bool) (x lo hi : E) (hx : x.WF bs) (hlo : lo.WF bs) (hhi : hi.WF bs)
    (hne : x.toks ≠ []) (hn : x.toks.head? ≠ some .not_) (o : Str) (hb : (lowerStr o == ofS "between") = true) :
    AtomCond bs (x.toks ++ (.op o :: (lo.toks ++ .and_ :: hi.toks))) (between x.tree lo.tree hi.tree) ∧
    AtomCond bs (x.toks ++ (.not_ :: .op o :: (lo.toks ++ .and_ :: hi.toks))) (notBetween x.tree lo.tree hi.tree) :=
  ⟨C02.between_is_atom bs x lo hi hx hlo hhi hne hn o hb false, C02.between_is_atom bs x lo hi hx hlo hhi hne hn o hb true⟩

end Fsel.C03
