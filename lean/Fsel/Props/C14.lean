/-
  C14  Size literals and size formatting follow the documented unit tables.

  Model: `parseFilesize` driven by the *generated* ladder `sizeLadder` (suffix, length bound, cut, float?,
  multiplier — extracted from `parse_filesize` on every run), `formatFilesize` with the generated unit
  table.
  Idea: two facts are decided over the tables (`ladder_wf`, `doc_units_rung`); a lemma about *any* well-formed ladder
  (`SizeL.sizeRung_number`) lifts them to `<number><unit>` for every number text.  `fraction_table` is conditional on
  the generated flag `sizeScaledInIntegers` (the float rungs go through `scale_size`; D67 made it so).
  Not theorems: a bare number without unit; numbers with exponents, the specifier grammar of FORMAT_SIZE/fsize, monotonicity and round-trip of the
  rendering are decided by the correspondence (exact on dyadic values) and the oracle.
-/
import Fsel.Lemmas.Size

namespace Fsel.C14
open Fsel TextL NumL SizeL

/-- the unit table of the documentation (docs/usage.md), unit ↦ multiplier, with `b`: typed in by hand — nothing
    regenerates it (`Gen/DocTables.lean` holds the alias groups only) -/
def docUnits : List (Str × Nat) :=
  [ ("k", 1024), ("kib", 1024), ("kb", 1000), ("m", 1024 ^ 2), ("mib", 1024 ^ 2), ("mb", 1000 ^ 2),
    ("g", 1024 ^ 3), ("gib", 1024 ^ 3), ("gb", 1000 ^ 3), ("t", 1024 ^ 4), ("tib", 1024 ^ 4), ("tb", 1000 ^ 4),
    ("b", 1) ].map fun (u, m) => (u.toList, m)

/-- every rung of the generated ladder is `rungWF` -/
theorem ladder_wf : sizeLadder.all rungWF = true := by decide +kernel

/-- each documented unit is in `parse_filesize`'s normal form (lower case, no blank), its multiplier is positive, and
    the rung selected for it is the unit itself with the documented multiplier, a float rung unless the unit is `b` -/
theorem doc_units_rung : ∀ p ∈ docUnits, (lowerStr p.1).filter (· != ' ') = p.1 ∧ 0 < p.2 ∧
    (firstRung sizeLadder p.1).map (fun r => (r.1, r.2.2.2)) = some (p.1, p.1 != ['b'], p.2) := by decide +kernel

/-- **number with a documented unit**: the unit's rung reads the number text, as a `u64` for `b` and as an `f64`
    scaled by the documented multiplier otherwise -/
theorem parseFilesize_doc (b u : Str) (m : Nat) (hum : (u, m) ∈ docUnits) (hb : b.all numCh = true) (hne : b ≠ []) :
    parseFilesize (b ++ u) = if u = ['b'] then (parseU64? b).map (· * m)
      else (parseF64? b).map fun v => (scaleSize b v m).1 := by
  obtain ⟨hn, -, hr⟩ := doc_units_rung (u, m) hum
  obtain ⟨⟨_, _, _, _, _⟩, hr, he⟩ := Option.map_eq_some_iff.mp hr
  cases he
  rw [parseFilesize, lowerStr_append, List.filter_append, norm_number b hb, hn,
    sizeRung_number sizeLadder ladder_wf b u hb hne _ hr rfl]
  by_cases hub : u = ['b'] <;> simp [hub]

/-- **unit table**: `<n><unit>` denotes n × the documented multiplier, for every n and documented unit -/
theorem unit_table (n : Nat) (u : Str) (m : Nat) (hum : (u, m) ∈ docUnits) (hfit : n * m ≤ u64Max) :
    parseFilesize (showNat n ++ u) = some (n * m) := by
  have hm := (doc_units_rung (u, m) hum).2.1
  have hn : n ≤ u64Max := Nat.le_trans (Nat.le_mul_of_pos_right n hm) hfit
  rw [parseFilesize_doc _ u m hum (digits_numCh _ (showNat_all_digits n)) (showNat_ne_nil n), parseU64_showNat n hn,
    parseF64_showNat n (u64_lt_pow n hn)]
  simp only [Option.map_some, scaleSize_nat n m hm hfit, ite_self]

/-- **fractional numbers**: `<digits>.<digits><unit>` denotes the decimal number × the documented
    multiplier, rounded down — exactly, for every number of at most 38 fraction digits whose scaled digits fit
    `u128` (saturating at `u64::MAX`), for every documented unit except `b` (which takes whole numbers only).
    Holds when the float rungs go through `scale_size` (`sizeScaledInIntegers`, read from the source on every
    run; D67 made it so). -/
theorem fraction_table (ds fs u : Str) (m : Nat) (hum : (u, m) ∈ docUnits) (hub : u ≠ ['b'])
    (hd : ds.all isDigit = true) (hne : ds ≠ []) (hfs : fs.all isDigit = true)
    (hsc : sizeScaledInIntegers = true) (hk : fs.length ≤ 38) (hfit : digitsVal (ds ++ fs) * m ≤ u128Max) :
    parseFilesize (ds ++ '.' :: fs ++ u) = some (min (digitsVal (ds ++ fs) * m / 10 ^ fs.length) u64Max) := by
  have hb : (ds ++ '.' :: fs).all numCh = true := by
    rw [List.all_append, List.all_cons, digits_numCh ds hd, digits_numCh fs hfs]; rfl
  rw [parseFilesize_doc _ u m hum hb (by simp), if_neg hub, parseF64_plain ds fs hd hne hfs, Option.map_some,
    scaleSize_plain _ _ m _ _ hsc (plainDecimal_frac ds fs hd hne hfs) (doc_units_rung (u, m) hum).2.1 hk hfit]

/-- the number a plain decimal denotes: its digits read as one integer, over 10^(fraction digits) -/
theorem decimal_value (ds fs : Str) : digitsVal (ds ++ fs) = digitsVal ds * 10 ^ fs.length + digitsVal fs :=
  digitsVal_append ds fs

/-- a concrete check, D67's witnesses: `1.001kb` is 1001 bytes and `4.1mb` is 4 100 000 bytes (the float products are
    1000.9999999999999 and, in one multiplication, 4099999.9999999995) -/
example (h : sizeScaledInIntegers = true) :
    parseFilesize (ofS "1.001kb") = some 1001 ∧ parseFilesize (ofS "4.1mb") = some 4100000 := by
  have a := fraction_table (ofS "1") (ofS "001") (ofS "kb") 1000 (by decide) (by decide) (by decide) (by decide) (by decide) h
    (by decide) (by decide)
  have b := fraction_table (ofS "4") (ofS "1") (ofS "mb") (1000 ^ 2) (by decide) (by decide) (by decide) (by decide)
    (by decide) h (by decide) (by decide)
  rw [show ofS "1.001kb" = ofS "1" ++ '.' :: ofS "001" ++ ofS "kb" by decide,
    show ofS "4.1mb" = ofS "4" ++ '.' :: ofS "1" ++ ofS "mb" by decide, a, b]
  decide +kernel

/-! ### formatting: which unit is chosen when none is fixed -/

def divIter (d : Rat) : Nat → Rat → Rat
  | 0, q => q
  | j + 1, q => divIter d j (q / d)

/-- **the auto-scaling loop** (no fixed unit), for any divider `d` (the caller passes the base: 1000 for decimal units,
    1024 otherwise) and any fuel `f` (the caller passes the number of units): it returns the size divided `j` times
    by `d` where `j ≤ f` is the number of the chosen unit; every division happened because the value was still at
    least `d`, and — unless all `f` steps were used — the loop stopped because the value shown is below `d`.  (Read
    with `d` the base: the unit chosen is the largest not exceeding the size; that reading is not a statement here.) -/
theorem autoScale_spec (d : Rat) : ∀ (f : Nat) (q : Rat) (i : Nat),
    ∃ j, j ≤ f ∧ autoScale d f q i = (divIter d j q, i + j) ∧
      (∀ k, k < j → ratAbs (divIter d k q) ≥ d) ∧ (j < f → ¬ ratAbs (divIter d j q) ≥ d)
  | 0, q, i => ⟨0, Nat.le_refl _, rfl, nofun, fun h => absurd h (Nat.lt_irrefl 0)⟩
  | f + 1, q, i => by
    by_cases hge : ratAbs q ≥ d
    · obtain ⟨j, hj, heq, hall, hstop⟩ := autoScale_spec d f (q / d) (i + 1)
      refine ⟨j + 1, Nat.succ_le_succ hj, ?_, ?_, fun h => hstop (Nat.lt_of_succ_lt_succ h)⟩
      · rw [autoScale, if_pos hge, heq, Nat.add_right_comm, Nat.add_assoc]; rfl
      · rintro (_ | k) hk
        · exact hge
        · exact hall k (Nat.lt_of_succ_lt_succ hk)
    · exact ⟨0, Nat.zero_le _, by rw [autoScale, if_neg hge]; rfl, nofun, fun _ => hge⟩

/-- bytes: a size below the base is shown in bytes (unit number 0), undivided -/
theorem autoScale_small (d : Rat) (f : Nat) (q : Rat) (h : ¬ ratAbs q ≥ d) : autoScale d (f + 1) q 0 = (q, 0) := by
  simp [autoScale, h]

/-- letter case of a literal never matters: `parse_filesize` lower-cases first -/
theorem unit_case_insensitive (s t : Str) (h : lowerStr s = lowerStr t) : parseFilesize s = parseFilesize t := by
  unfold parseFilesize
  rw [h]

/-- the hypothesis can be met: `10KB` and `10kb`, `3GiB` and `3gib` have the same lower-cased text -/
example : lowerStr (ofS "10KB") = lowerStr (ofS "10kb") ∧ lowerStr (ofS "3GiB") = lowerStr (ofS "3gib") := by decide +kernel

/-- the hypotheses can be met: `kb` with 1000 and `gib` with 1024³ are rows of the documentation table -/
example : (ofS "kb", 1000) ∈ docUnits ∧ (ofS "gib", 1024 ^ 3) ∈ docUnits := by decide +kernel

end Fsel.C14
