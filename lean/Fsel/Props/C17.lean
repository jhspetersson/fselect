/-
  C17  One failing directory, file or reader never spoils the rest of the search.

  Model: `Walk.lean` (`visit_dir` records a failing `read_dir` in `errCount`/`errPaths` and goes on),
  `Eval.lean` (content readers yield empty values); the status expression of `Main.lean` is copied here as `statusOf`
  and no theorem ties the copy to `execSearch`.
  Idea: the walker theorems of C01 ask nothing about which directories can be listed, so they say what happens on a
  faulty tree as they stand: exactly the unlistable directories are recorded (`*_with_faults`).  What is reported is
  compared with the healed tree (`healL`: every directory listable): `markL` lists the events of the healed tree with the
  flag "below an unlistable directory", and the faulty run reports exactly the unflagged ones (one induction over the
  forest), so its rows are those of the healed run that lie outside the failing directories.  The theorems hold of every
  finite tree, any number and position of unlistable directories, every depth window, both traversal modes.
  Not theorems: the ordered/aggregated result paths on faulty trees (decided by the
  correspondence, run as uid 65534), and everything about a closed standard output — that is the behaviour of
  the OS pipe and of Rust's `LineWriter`, which the model cannot exhibit; it is decided by fault injection
  (closing the pipe at every offset) with the oracle "no panic, status 0 or 1".
-/
import Fsel.Props.C01

namespace Fsel.C17
open Fsel WalkL WalkB

theorem reportEntry_zip (p : Plan) (rp : RootParams) (lvl : Nat) (n : Node) (e : Entry) (rs : ResSt) :
    reportEntry p rp lvl n e rs = reportEntry p rp lvl (.leaf e (zipOf n)) e rs := by
  cases n with
  | leaf a z => cases z <;> rfl
  | dir a l k => rfl

/-- the rows are a function of the keys of the events only -/
theorem foldReport_congr (p : Plan) (rp : RootParams) :
    ∀ (a b : List (Node × Entry × Nat)) (rs : ResSt), a.map key = b.map key →
      foldReport p rp rs a = foldReport p rp rs b
  | [], [], _, _ => rfl
  | [], _ :: _, _, h => by simp at h
  | _ :: _, [], _, h => by simp at h
  | (n, e, l) :: a, (n', e', l') :: b, rs, h => by
    simp only [List.map_cons, List.cons.injEq, key, Prod.mk.injEq] at h
    obtain ⟨⟨hz, he, hl⟩, hrest⟩ := h
    subst he; subst hl
    simp only [foldReport]
    rw [reportEntry_zip p rp l n, reportEntry_zip p rp l n', hz]
    cases reportEntry p rp l (.leaf e (zipOf n')) e rs with
    | error x => rfl
    | ok rs' => exact foldReport_congr p rp a b rs' hrest

-- the same tree with every directory listable
mutual
def healN : Node → Node
  | .leaf e z => .leaf e z
  | .dir e _ kids => .dir e true (healL kids)
def healL : List Node → List Node
  | [] => []
  | n :: ns => healN n :: healL ns
end

-- pre-order (pruned below maxdepth) of the healed tree; the flag says "has an unlistable proper ancestor"
mutual
def markN (rp : RootParams) (dp dc : Str) (lvl : Nat) (hidden : Bool) : Node → List (Key × Bool)
  | .leaf le z => [((z, fillEntry le dp dc le.absPath, lvl), hidden)]
  | .dir de l kids =>
    ((none, fillEntry de dp dc de.absPath, lvl), hidden) ::
      (if rp.maxDepth == 0 || lvl < rp.maxDepth then
        markL rp (fillEntry de dp dc de.absPath).path (childCanon dc de.name) (lvl + 1) (hidden || !l) kids
       else [])
def markL (rp : RootParams) (dp dc : Str) (lvl : Nat) (hidden : Bool) : List Node → List (Key × Bool)
  | [] => []
  | n :: ns => markN rp dp dc lvl hidden n ++ markL rp dp dc lvl hidden ns
end

theorem healL_single (n : Node) : healL [n] = [healN n] := rfl

theorem markL_single (rp : RootParams) (dp dc : Str) (lvl : Nat) (h : Bool) (n : Node) :
    markL rp dp dc lvl h [n] = markN rp dp dc lvl h n := List.append_nil _

theorem mark_all_L (rp : RootParams) (dp dc : Str) (lvl : Nat) (h : Bool) (ns : List Node) :
    (markL rp dp dc lvl h ns).map (·.1) = (eventsL rp dp dc lvl (healL ns)).map key := by
  induction ns using forest_induct generalizing dp dc lvl h with
  | nil => rfl
  | leaf le z ns ih => simp [markL, markN, healL, healN, eventsL, eventsN, key, zipOf, ih]
  | dir de l kids ns ihk ih =>
    simp only [markL, markN, healL, healN, eventsL, eventsN, List.map_append, List.map_cons, key, zipOf, Bool.and_true, ih]
    congr 2
    split
    · exact ihk ..
    · rfl

theorem mark_all_N (rp : RootParams) (dp dc : Str) (lvl : Nat) (h : Bool) :
    ∀ n : Node, (markN rp dp dc lvl h n).map (·.1) = (eventsN rp dp dc lvl (healN n)).map key := fun n => by
  simpa only [markL_single, healL_single, eventsL_single] using mark_all_L rp dp dc lvl h [n]

theorem mark_visible_L (rp : RootParams) (dp dc : Str) (lvl : Nat) (h : Bool) (ns : List Node) :
    ((markL rp dp dc lvl h ns).filter (fun x => !x.2)).map (·.1) =
      if h then [] else (eventsL rp dp dc lvl ns).map key := by
  induction ns using forest_induct generalizing dp dc lvl h with
  | nil => cases h <;> rfl
  | leaf le z ns ih => cases h <;> simp [markL, markN, eventsL, eventsN, key, zipOf, ih]
  | dir de l kids ns ihk ih =>
    cases h with
    | true =>
      simp only [markL, markN, List.cons_append, List.filter_cons, List.filter_append, List.map_append, Bool.not_true,
        Bool.false_eq_true, if_false, if_true, Bool.true_or, ih, List.append_nil]
      split
      · exact ihk ..
      · rfl
    | false =>
      simp only [markL, markN, eventsL, eventsN, List.cons_append, List.filter_cons, List.filter_append, List.map_append,
        List.map_cons, Bool.not_false, if_true, Bool.false_or, Bool.false_eq_true, if_false, key, zipOf, ih]
      congr 2
      -- the entries of `de` are flagged exactly when it cannot be listed, which is when they are no events
      cases rp.maxDepth == 0 || decide (lvl < rp.maxDepth) with
      | false => rfl
      | true =>
        simp only [if_true, Bool.true_and]
        rw [ihk]
        cases l <;> rfl

theorem mark_hidden_N (rp : RootParams) (dp dc : Str) (lvl : Nat) :
    ∀ n : Node, (markN rp dp dc lvl true n).filter (fun x => !x.2) = [] := fun n => by
  simpa only [markL_single, if_true, List.map_eq_nil_iff] using mark_visible_L rp dp dc lvl true [n]

theorem mark_visible_N (rp : RootParams) (dp dc : Str) (lvl : Nat) :
    ∀ n : Node, ((markN rp dp dc lvl false n).filter (fun x => !x.2)).map (·.1) = (eventsN rp dp dc lvl n).map key :=
  fun n => by
    simpa only [markL_single, eventsL_single, Bool.false_eq_true, if_false] using mark_visible_L rp dp dc lvl false [n]

/-- **isolation of directory faults**: the faulty tree's events are the healed tree's events minus exactly
    those below an unlistable directory (the failing directory's own row stays).  With `foldReport_congr` (the rows are
    a function of the events only) this is what "the rest of the search is unspoilt" rests on; no theorem here puts
    the two together into a statement about the rows of the two runs. -/
theorem faults_hide_only_their_subtrees (rp : RootParams) (path canon : Str) (kids : List Node) :
    (eventsL rp path canon 1 kids).map key = ((markL rp path canon 1 false kids).filter (fun x => !x.2)).map (·.1) ∧
    (eventsL rp path canon 1 (healL kids)).map key = (markL rp path canon 1 false kids).map (·.1) :=
  ⟨(mark_visible_L rp path canon 1 false kids).symm, (mark_all_L rp path canon 1 false kids).symm⟩

/-- the walker on the faulty tree: `C01.dfs_root_exact` asks nothing about listability; this is what it says of the
    error state -/
theorem dfs_root_exact_with_faults (p : Plan) (rp : RootParams) (hl : NoLimit p) (path canon : Str) (kids : List Node) (st : WSt)
    (hroot : 1 < canon.length) (hbase : rp.base = calcDepth canon)
    (hg : goodL kids) (hnd : (inodesL kids).Nodup) (hfresh : ∀ i ∈ inodesL kids, i ∉ st.walk.visited) :
    match foldReport p rp st.res (eventsL rp path canon 1 kids) with
    | .error a => visitDirD p rp path canon true kids st = .error a
    | .ok rs' => ∃ w', w'.errCount = st.walk.errCount + (faultsL rp path canon 1 kids).length ∧
        w'.errPaths = st.walk.errPaths ++ faultsL rp path canon 1 kids ∧
        visitDirD p rp path canon true kids st = .ok { res := rs', walk := w' } :=
  WalkLim.match_imp (C01.dfs_root_exact p rp hl path canon kids st hroot hbase hg hnd hfresh)
    fun _ _ ⟨w', hw, heq⟩ => ⟨w', hw.errs.1, hw.errs.2, heq⟩

/-- a failing directory inside the descent window is named (by the path it was reached under) -/
theorem unlistable_dir_is_named (rp : RootParams) (dp dc : Str) (lvl : Nat) (de : Entry) (kids : List Node)
    (hwin : rp.maxDepth = 0 ∨ lvl < rp.maxDepth) :
    faultsN rp dp dc lvl (.dir de false kids) = [(fillEntry de dp dc de.absPath).path] := by
  simp [faultsN, (maxGate rp lvl).mpr hwin]

/-- … while its own row is still reported and nothing below it is -/
theorem unlistable_dir_row_only (rp : RootParams) (dp dc : Str) (lvl : Nat) (de : Entry) (kids : List Node) :
    eventsN rp dp dc lvl (.dir de false kids) = [(.dir de false kids, fillEntry de dp dc de.absPath, lvl)] := by
  simp [eventsN]

theorem healed_no_faults_L (rp : RootParams) (dp dc : Str) (lvl : Nat) (ns : List Node) :
    faultsL rp dp dc lvl (healL ns) = [] := by
  induction ns using forest_induct generalizing dp dc lvl with
  | nil => rfl
  | leaf le z ns ih => simp [healL, healN, faultsL, faultsN, ih]
  | dir de l kids ns ihk ih =>
    simp only [healL, healN, faultsL, faultsN, if_true, ih, List.append_nil]
    split
    · exact ihk ..
    · rfl

theorem healed_no_faults_N (rp : RootParams) (dp dc : Str) (lvl : Nat) : ∀ n : Node, faultsN rp dp dc lvl (healN n) = [] :=
  fun n => by simpa only [healL_single, faultsL_single] using healed_no_faults_L rp dp dc lvl [n]

/-- a run in which nothing fails records nothing -/
theorem healed_has_no_faults (rp : RootParams) (path canon : Str) (kids : List Node) :
    faultsL rp path canon 1 (healL kids) = [] := healed_no_faults_L rp path canon 1 kids

/-- the expression `exec_search` computes its status with, copied here (`execSearch` has its own `if`; no theorem ties
    the two): 1 iff an error was recorded, never more -/
def statusOf (errCount : Nat) : Nat := if errCount > 0 then 1 else 0

/-- the exit status is 0 exactly when nothing was recorded before and no directory failed -/
theorem status_of_faults (n : Nat) (faults : List Str) :
    statusOf (n + faults.length) = 0 ↔ (n = 0 ∧ faults = []) := by
  unfold statusOf
  cases faults with
  | nil => simp
  | cons a t => simp

theorem status_zero_or_one (n : Nat) : statusOf n = 0 ∨ statusOf n = 1 := by
  unfold statusOf; split <;> simp

/-- the entry as seen when its content cannot be opened -/
def blind (e : Entry) : Entry :=
  { e with lineCount := none, shebang := false, sha1 := [], sha256 := [], sha512 := [], sha3 := [],
           text := none, hasXattrs := none, xattrs := [], caps := [], hasCapsXattr := none, unreadable := true }

def contentFields : List Field := [.LineCount, .Sha1, .Sha256, .Sha512, .Sha3, .IsShebang, .HasXattrs, .Capabilities]

/-- **content faults are local**: every column but the content-derived ones (all need the file opened) is what it would
    be if the content could be read.  Of those, line_count and the hashes are stated to be empty (`blind_line_count`,
    `blind_hashes`), and so is the `contains` function (`blind_contains`). -/
theorem content_fault_local (cfg : Config) (e : Entry) (f : Field) (h : f ∉ contentFields) :
    fieldValue cfg (blind e) f = fieldValue cfg e f := by
  cases f
  case LineCount | Sha1 | Sha256 | Sha512 | Sha3 | IsShebang | HasXattrs | Capabilities =>
    exact absurd (by simp [contentFields]) h
  -- every other column reads fields of the entry that `blind` leaves alone
  all_goals rfl

/-- blinding leaves `arc` alone: for an entry that is no archive member `fieldValue` reads the entry's own columns -/
theorem blind_not_member (e : Entry) (h : e.arc = none) : blind e = { blind e with arc := none } := by
  simp only [blind, h]

/-- an entry whose content cannot be read has an empty line count … -/
theorem blind_line_count (cfg : Config) (e : Entry) (h : e.arc = none) :
    fieldValue cfg (blind e) .LineCount = .ok (.empty .string) := by
  rw [blind_not_member e h]; rfl

/-- … empty hashes … -/
theorem blind_hashes (cfg : Config) (e : Entry) (h : e.arc = none) :
    fieldValue cfg (blind e) .Sha1 = .ok (.ofString []) ∧ fieldValue cfg (blind e) .Sha256 = .ok (.ofString []) ∧
    fieldValue cfg (blind e) .Sha512 = .ok (.ofString []) ∧ fieldValue cfg (blind e) .Sha3 = .ok (.ofString []) := by
  rw [blind_not_member e h]
  exact ⟨rfl, rfl, rfl, rfl⟩

/-- … and an empty answer to `contains` -/
theorem blind_contains (e : Entry) (arg : Str) (h : e.arc = none) :
    fileFn (some (blind e)) .Contains arg = some (.ok (.empty .bool)) := by
  have : (blind e).arc = none := h
  simp only [fileFn, this]
  rfl

/-- the hypotheses can be met: a tree with an unlistable directory between two files (one fault, three events, four
    once healed) -/
example :
    let f : Entry := { name := ofS "f", path := [], absPath := none, absDir := none, kind := 'f', size := 1, mode := 0,
                        uid := 0, gid := 0, nlink := 1, ino := 11, dev := 0, blocks := 0, mtime := 0 }
    let d : Entry := { f with name := ofS "d", kind := 'd', ino := 12 }
    let kids := [Node.leaf f none, Node.dir d false [Node.leaf { f with name := ofS "g", ino := 13 } none],
                 Node.leaf { f with name := ofS "h" } none]
    let rp : RootParams := { minDepth := 0, maxDepth := 0, archives := false, bfs := false, base := 1 }
    goodL kids ∧ (inodesL kids).Nodup ∧ (faultsL rp [] ['/', 'r'] 1 kids).length = 1 ∧
      (eventsL rp [] ['/', 'r'] 1 kids).length = 3 ∧ (eventsL rp [] ['/', 'r'] 1 (healL kids)).length = 4 := by
  refine ⟨?_, ?_, ?_, ?_, ?_⟩
  · simp [goodL, goodN, ofS]
  · simp [inodesL, inodesN]
  · simp [faultsL, faultsN]
  · simp [eventsL, eventsN]
  · simp [eventsL, eventsN, healL, healN]

/-- the root call and the queue loop on a tree with unlistable directories (from `C01.bfs_root_exact`, which
    asks nothing about listability): rows from `levelOrder`, errors exactly `levelFaults` -/
theorem bfs_root_exact_with_faults (p : Plan) (rp : RootParams) (hl : NoLimit p) (path canon : Str) (kids : List Node) (st : WSt)
    (hq : st.walk.queue = []) (hg : goodL kids) (hnd : (inodesL kids).Nodup) (hfresh : ∀ i ∈ inodesL kids, i ∉ st.walk.visited) :
    match foldReport p rp st.res (levelOrder rp [C01.rootItem path canon kids]) with
    | .error a => C01.bfsRoot p rp path canon kids st = .error a
    | .ok rs' => ∃ w', C01.bfsRoot p rp path canon kids st = .ok { res := rs', walk := w' } ∧
        w'.errPaths = st.walk.errPaths ++ levelFaults rp [C01.rootItem path canon kids] ∧
        w'.errCount = st.walk.errCount + (levelFaults rp [C01.rootItem path canon kids]).length :=
  WalkLim.match_imp (C01.bfs_root_exact p rp hl path canon kids st hq hg hnd hfresh)
    fun _ _ ⟨w', h1, h2, h3, _⟩ => ⟨w', h1, h2, h3⟩

/-- bfs records the same failing directories as dfs -/
theorem bfs_faults_same_as_dfs (rp : RootParams) (path canon : Str) (kids : List Node)
    (hroot : 1 < canon.length) (hbase : rp.base = calcDepth canon) (hg : goodL kids) :
    (levelFaults rp [C01.rootItem path canon kids]).Perm (faultsL rp path canon 1 kids) :=
  (WalkRoot.rootItem_perm rp path canon kids hroot hbase hg).2

/-- bfs reports the same entries as dfs on a faulty tree (entries below a failing directory are hidden in both) -/
theorem bfs_rows_same_as_dfs (rp : RootParams) (path canon : Str) (kids : List Node)
    (hroot : 1 < canon.length) (hbase : rp.base = calcDepth canon) (hg : goodL kids) :
    (levelOrder rp [C01.rootItem path canon kids]).Perm (eventsL rp path canon 1 kids) :=
  C01.bfs_same_entries_as_dfs rp path canon kids hroot hbase hg

end Fsel.C17
