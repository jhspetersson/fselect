/-
  The civil-calendar arithmetic (`daysFromCivil` / `civilFromDays`, Hinnant's algorithms as chrono performs
  them) are inverse to each other on valid dates — for every year, also negative ones.

  A day number is era · 146097 + day of era − 719468; a day of era is a year of era and a day of year (`doe_iff`), a
  day of year a month index counted from March and a day (`doy_iff`).  Both functions are written in these terms, and
  the two theorems only match them up.  The arithmetic is closed by `lia`, not `omega`: `omega` does not decide the year-of-era
  formula (it answers with a counter-example that is none).
-/
import Fsel.Model.Date
namespace Fsel
namespace CivilL

theorem month_shift (m mp : Int) :
    1 ≤ m ∧ m ≤ 12 ∧ (m + 9) % 12 = mp ↔ 0 ≤ mp ∧ mp ≤ 11 ∧ (if mp < 10 then mp + 3 else mp - 9) = m := by
  lia

/-- a day of the year (counted from 1 March) is a month index and a day of that month.  `(153 mp + 2) / 5` days lie
    before month `mp`, so `(153 (mp + 1) + 2) / 5 - (153 mp + 2) / 5` is the length of the month; for February, the last,
    the formula gives 30, hence the clause `mp = 11 → d ≤ 29`. -/
theorem doy_iff (mp d doy : Int) :
    0 ≤ doy ∧ doy ≤ 365 ∧ (5 * doy + 2) / 153 = mp ∧ doy - (153 * mp + 2) / 5 + 1 = d ↔
    0 ≤ mp ∧ mp ≤ 11 ∧ 1 ≤ d ∧ d ≤ (153 * (mp + 1) + 2) / 5 - (153 * mp + 2) / 5 ∧ (mp = 11 → d ≤ 29) ∧
      doy = (153 * mp + 2) / 5 + d - 1 := by
  lia

theorem doy_365 {mp d : Int} (h11 : mp ≤ 11) (hd : d ≤ (153 * (mp + 1) + 2) / 5 - (153 * mp + 2) / 5) :
    (153 * mp + 2) / 5 + d - 1 = 365 ↔ mp = 11 ∧ d = 29 := by
  lia

theorem isLeap_iff (y : Int) : isLeap y = true ↔ (y % 4 = 0 ∧ (y % 100 ≠ 0 ∨ y % 400 = 0)) := by
  simp only [isLeap, Bool.or_eq_true, Bool.and_eq_true, beq_iff_eq, bne_iff_ne, ne_eq]
  lia

theorem dim_eq (y : Int) : ∀ m : Nat, 1 ≤ m → m ≤ 12 →
    (daysInMonth y m : Int) = if m = 2 then (if isLeap y then 29 else 28) else
      (153 * (((m : Int) + 9) % 12 + 1) + 2) / 5 - (153 * (((m : Int) + 9) % 12) + 2) / 5
  | 1, _, _ | 3, _, _ | 4, _, _ | 5, _, _ | 6, _, _ | 7, _, _ | 8, _, _ | 9, _, _ | 10, _, _ | 11, _, _ | 12, _, _ => rfl
  | 2, _, _ => by cases hL : isLeap y <;> simp [daysInMonth, hL]
  | 0, h, _ => absurd h (by decide)
  | n + 13, _, h => absurd h (by lia)

theorem le_dim_iff (y : Int) (m d : Nat) (mp : Int) (h1 : 1 ≤ m) (h12 : m ≤ 12) (hmp : ((m : Int) + 9) % 12 = mp) :
    d ≤ daysInMonth y m ↔
      (d : Int) ≤ (153 * (mp + 1) + 2) / 5 - (153 * mp + 2) / 5 ∧
      (mp = 11 → (d : Int) ≤ 29) ∧ (mp = 11 → (d : Int) = 29 → isLeap y = true) := by
  rw [← Int.ofNat_le, dim_eq y m h1 h12, hmp]
  split
  · have h11 : mp = 11 := by lia
    subst h11
    cases isLeap y <;> simp <;> lia
  · have h11 : mp ≠ 11 := by lia
    simp [h11]

/-- Hinnant's year-of-era formula, read off the digits of the year of era (`c` century, `s` 4-year cycle of the century,
    `t` year of the cycle) and the day of year `b`: a proof device of `doe_iff`, nothing else speaks of digits.  A year
    has a 366th day only if it ends a cycle, and the cycle that ends a century only if the century ends the era. -/
theorem yoe_digits {c s t b N : Int} (h : 0 ≤ c ∧ c ≤ 3 ∧ 0 ≤ s ∧ s ≤ 24 ∧ 0 ≤ t ∧ t ≤ 3 ∧ 0 ≤ b ∧ b ≤ 365)
    (hlast : b = 365 → t = 3 ∧ (s = 24 → c = 3)) (hN : N = 36524 * c + 1461 * s + 365 * t + b) :
    (N - N / 1460 + N / 36524 - N / 146096) / 365 = 100 * c + 4 * s + t := by
  by_cases hedge : b = 365 ∧ s = 24
  · obtain ⟨rfl, rfl⟩ := hedge
    obtain ⟨rfl, hc⟩ := hlast rfl
    obtain rfl := hc rfl
    subst hN; decide
  · have e2 : N / 36524 = c := by lia
    have e3 : N / 146096 = 0 := by lia
    rw [e2, e3]
    -- N = 1460 (25c + s) + e with e = 24c + s + 365t + b < 2·1460, so N / 1460 is 25c + s or one more, and the
    -- numerator N - N / 1460 + c is 365 (100c + 4s + t) + b or + b - 1; b ≤ 364 in the first case (b = 365 forces
    -- t = 3, hence e ≥ 1460) and b ≥ 1 in the second (e ≥ 1460 with b = 0 is impossible)
    lia

/-- a day of the era is a year of the era and a day of that year (years begin on 1 March; day 365 is 29 February of the
    civil year after, which must be leap) -/
theorem doe_iff (yoe doy doe : Int) :
    0 ≤ yoe ∧ yoe ≤ 399 ∧ 0 ≤ doy ∧ doy ≤ 365 ∧
      (doy = 365 → (yoe + 1) % 4 = 0 ∧ ((yoe + 1) % 100 ≠ 0 ∨ (yoe + 1) % 400 = 0)) ∧ doe = doeOf yoe doy ↔
    0 ≤ doe ∧ doe ≤ 146096 ∧ (doe - doe / 1460 + doe / 36524 - doe / 146096) / 365 = yoe ∧
      doe - (365 * yoe + yoe / 4 - yoe / 100) = doy := by
  unfold doeOf
  constructor
  · rintro ⟨hy0, hy1, hd0, hd1, hl, he⟩
    obtain ⟨c, s, t, hdig, rfl⟩ : ∃ c s t : Int, (0 ≤ c ∧ c ≤ 3 ∧ 0 ≤ s ∧ s ≤ 24 ∧ 0 ≤ t ∧ t ≤ 3 ∧ 0 ≤ doy ∧ doy ≤ 365) ∧
        yoe = 100 * c + 4 * s + t := ⟨yoe / 100, yoe % 100 / 4, yoe % 4, by lia⟩
    rw [yoe_digits (N := doe) hdig (by lia) (by lia)]
    lia
  · rintro ⟨h0, h1, rfl, rfl⟩
    -- the last day of the era and of a cycle are 366th days
    obtain ⟨c, r, hc0, hc3, hr0, hr1, hrc, hdoe⟩ :
        ∃ c r : Int, 0 ≤ c ∧ c ≤ 3 ∧ 0 ≤ r ∧ r ≤ 36524 ∧ (r = 36524 → c = 3) ∧ doe = 36524 * c + r := by
      by_cases hlast : doe = 146096
      · exact ⟨3, 36524, by lia⟩
      · exact ⟨doe / 36524, doe % 36524, by lia⟩
    clear h0 h1
    obtain ⟨t, b, ht0, ht3, hb0, hb1, hbt, hu⟩ :
        ∃ t b : Int, 0 ≤ t ∧ t ≤ 3 ∧ 0 ≤ b ∧ b ≤ 365 ∧ (b = 365 → t = 3) ∧ r % 1461 = 365 * t + b := by
      by_cases hlast : r % 1461 = 1460
      · exact ⟨3, 365, by lia⟩
      · exact ⟨r % 1461 / 365, r % 1461 % 365, by lia⟩
    rw [yoe_digits (c := c) (s := r / 1461) (t := t) (b := b) (N := doe) (by lia) (by lia) (by lia)]
    lia

theorem year_of_era (y : Int) : ∃ era yoe : Int, (0 ≤ yoe ∧ yoe ≤ 399) ∧ y = yoe + era * 400 :=
  ⟨y / 400, y % 400, by lia⟩

theorem dfc_era {y era yoe : Int} {m d : Nat} (h : 0 ≤ yoe ∧ yoe ≤ 399)
    (hy : (if m ≤ 2 then y - 1 else y : Int) = yoe + era * 400) :
    daysFromCivil y m d = era * 146097 + doeOf yoe ((153 * (((m : Int) + 9) % 12) + 2) / 5 + (d : Int) - 1) - 719468 := by
  have he : (yoe + era * 400) / 400 = era := by lia
  simp only [daysFromCivil, hy, he, Int.add_sub_cancel, Int.ofNat_eq_natCast]

theorem cfd_era {era doe : Int} (h : 0 ≤ doe ∧ doe ≤ 146096) :
    civilFromDays (era * 146097 + doe - 719468) = civilOfEra era doe := by
  have hz : era * 146097 + doe - 719468 + 719468 = era * 146097 + doe := by lia
  have he : (era * 146097 + doe) / 146097 = era := by lia
  have hd : era * 146097 + doe - era * 146097 = doe := by lia
  simp only [civilFromDays, hz, he, hd]

/-- **`civil_from_days ∘ days_from_civil` is the identity on valid dates** (proleptic Gregorian, any year) -/
theorem civil_roundtrip (y : Int) (m d : Nat) (hv : validCivil y m d = true) :
    civilFromDays (daysFromCivil y m d) = (y, m, d) := by
  simp only [validCivil, Bool.and_eq_true, decide_eq_true_eq] at hv
  obtain ⟨⟨⟨hm1, hm12⟩, hd1⟩, hdm⟩ := hv
  obtain ⟨hdle, hfeb, hfeb29⟩ := (le_dim_iff y m d _ hm1 hm12 rfl).mp hdm
  have hm2 : m ≤ 2 ↔ (m : Int) ≤ 2 := by lia
  obtain ⟨hmp0, hmp11, hm⟩ := (month_shift m _).mp ⟨by lia, by lia, rfl⟩
  have hd1' : 1 ≤ (d : Int) := by lia
  generalize hmp : ((m : Int) + 9) % 12 = mp at *
  obtain ⟨hb0, hb365, hmpq, hdq⟩ := (doy_iff mp d _).mpr ⟨hmp0, hmp11, hd1', hdle, hfeb, rfl⟩
  obtain ⟨era, yoe, hyoe, hy'⟩ := year_of_era (if m ≤ 2 then y - 1 else y)
  -- day 365 is 29 February, in a leap `y`, and it closes the March-based year `y - 1`
  obtain ⟨h0, h1, hyq, hdoyq⟩ := (doe_iff yoe _ _).mp ⟨hyoe.1, hyoe.2, hb0, hb365, fun h365 => by
    obtain ⟨h11, h29⟩ := (doy_365 hmp11 hdle).mp h365
    rw [h11] at hm
    rw [if_pos (hm2.mpr (hm ▸ by decide))] at hy'
    have := (isLeap_iff y).mp (hfeb29 h11 h29)
    lia, rfl⟩
  rw [dfc_era hyoe hy', hmp, cfd_era ⟨h0, h1⟩]
  simp only [civilOfEra, hyq, hdoyq, hmpq, hdq, hm, ← hy', Int.toNat_natCast, ← hm2]
  split <;> simp only [Int.sub_add_cancel]

/-- **`civil_from_days` yields a valid date whose day number is the argument** (every integer day number) -/
theorem civil_of_days (z : Int) :
    validCivil (civilFromDays z).1 (civilFromDays z).2.1 (civilFromDays z).2.2 = true ∧
    daysFromCivil (civilFromDays z).1 (civilFromDays z).2.1 (civilFromDays z).2.2 = z := by
  obtain ⟨era, doe, h0, h1, rfl⟩ : ∃ era doe : Int, 0 ≤ doe ∧ doe ≤ 146096 ∧ z = era * 146097 + doe - 719468 :=
    ⟨(z + 719468) / 146097, (z + 719468) % 146097, by lia⟩
  obtain ⟨hy0, hy1, hb0, hb1, hleap, hdoe⟩ := (doe_iff _ _ doe).mpr ⟨h0, h1, rfl, rfl⟩
  simp only [cfd_era ⟨h0, h1⟩, civilOfEra]
  -- from here on the year of era, the day of year, the month index, the day and the month are variables: what
  -- `doe_iff`, `doy_iff` and `month_shift` say of them is all that is needed, and the casts to ℕ below want
  -- variables, not terms
  generalize (doe - doe / 1460 + doe / 36524 - doe / 146096) / 365 = yoe at *
  generalize doe - (365 * yoe + yoe / 4 - yoe / 100) = b at *
  obtain ⟨hmp0, hmp11, hd1, hdle, hfeb, hb⟩ := (doy_iff _ _ b).mp ⟨hb0, hb1, rfl, rfl⟩
  generalize (5 * b + 2) / 153 = mp at *
  generalize hd : b - (153 * mp + 2) / 5 + 1 = d at *
  obtain ⟨hm1, hm12, hmp⟩ := (month_shift _ mp).mpr ⟨hmp0, hmp11, rfl⟩
  generalize (if mp < 10 then mp + 3 else mp - 9) = m at *
  obtain ⟨m, rfl⟩ := Int.eq_ofNat_of_zero_le (Int.le_trans (by decide) hm1)
  obtain ⟨d, rfl⟩ := Int.eq_ofNat_of_zero_le (Int.le_trans (by decide) hd1)
  have hm2 : m ≤ 2 ↔ (m : Int) ≤ 2 := by lia
  have hm1' : 1 ≤ m ∧ m ≤ 12 := by lia
  simp only [Int.toNat_natCast, ← hm2]
  constructor
  · simp only [validCivil, Bool.and_eq_true, decide_eq_true_eq]
    refine ⟨⟨hm1', by lia⟩, (le_dim_iff _ m d mp hm1'.1 hm1'.2 hmp).mpr ⟨hdle, hfeb, fun h11 h29 => ?_⟩⟩
    -- 29 February is day 365, which only a year before a leap year has (the year of January and February, `m ≤ 2`)
    rw [if_pos (by lia)]
    have := hleap ((doy_365 hmp11 hdle).mpr ⟨h11, h29⟩ ▸ hb)
    exact (isLeap_iff _).mpr (by lia)
  · rw [dfc_era (era := era) ⟨hy0, hy1⟩ (by split <;> simp only [Int.add_sub_cancel]), hmp, ← hb, ← hdoe]

end CivilL
end Fsel
