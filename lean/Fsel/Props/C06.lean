/-
  C06  LIMIT N returns min(N, matches) rows, and with ORDER BY the true top N.

  Model: `TopN` (ordered path: every insertion history, every N ≥ 1, every total preorder); `limitReached` in the
  walker (streamed path, a query that is neither ordered nor aggregated: every tree, every filter, every N ≥ 1, either
  traversal mode, one root or several disjoint plain roots); `cutRuns` (grouped rows, D85 fix).
  Idea: every `*_streamed_limit` theorem is `limited_is_prefix` (Lemmas/WalkLim) applied to two instances of an
  any-plan walker theorem, one under the plan and one under the plan without its limit.  (`RootRec`, `PlainRoot`,
  `bfsRoot` and the like are opened from namespace `C01`; they are defined in `Lemmas/WalkRoot.lean`.)
  Not theorems: roots with options (symlinks, ignore files), overlapping roots and the footer are decided by the
  correspondence and by the oracle "sub-multiset of the unlimited run with min(N, M) rows".
-/
import Fsel.Props.C05
import Fsel.Lemmas.WalkRoot
import Fsel.Lemmas.WalkLim

namespace Fsel.C06
open Fsel TopNL CriteriaL

variable {K V : Type}

/-- LIMIT N under ORDER BY: the first N rows of the fully sorted result (stronger than the property asks: ties at the
    cut are resolved as in the unlimited run) -/
theorem limit_is_take (le : K → K → Bool) (hp : TotalPreorder le) (n : Nat) (hn : 0 < n) (xs : List (K × V)) :
    (insertAll le n xs).values = (insertAll le 0 xs).values.take n := by
  have hl : (TopNState.new n : TopNState K V).limit = some n := by
    cases n with | zero => omega | succ m => rfl
  unfold TopNState.values
  rw [(C05.insertAll_refines le hp n xs).1, (C05.insertAll_refines le hp 0 xs).1, hl, ← List.map_take]
  exact congrArg _ (foldl_insN le n xs [] (Nat.zero_le n)).1

/-- … hence min(N, M) rows -/
theorem limit_length (le : K → K → Bool) (hp : TotalPreorder le) (n : Nat) (hn : 0 < n) (xs : List (K × V)) :
    (insertAll le n xs).values.length = min n xs.length := by
  rw [limit_is_take le hp n hn xs, List.length_take]
  have := (C05.ordered_perm le hp xs).length_eq
  simp at this
  omega

/-- `limit 0` (or no limit): the buffer is created with no bound -/
theorem limit_zero_unlimited : (TopNState.new 0 : TopNState K V).limit = none := rfl

/-- a concrete check: a history with a tie straddling the cut -/
example : (insertAll (fun (a b : Nat) => decide (a ≤ b)) 2 [(3, "c"), (1, "a"), (1, "b"), (0, "z")]).values = ["z", "a"] := by
  decide

open WalkL WalkLim

/-- the root call of `visit_dir` (depth-first) under any plan: `check_file` over the entries and
    archive members in pre-order, stopping when the streamed limit is reached -/
theorem dfs_streamed_any_plan (p : Plan) (rp : RootParams) (path canon : Str) (kids : List Node) (st : WSt)
    (hroot : 1 < canon.length) (hbase : rp.base = calcDepth canon)
    (hg : goodL kids) (hnd : (inodesL kids).Nodup) (hfresh : ∀ i ∈ inodesL kids, i ∉ st.walk.visited) :
    match foldLim p st.res (checksL p rp (eventsL rp path canon 1 kids)) with
    | .error a => visitDirD p rp path canon true kids st = .error a
    | .ok rs' => ∃ w', visitDirD p rp path canon true kids st = .ok { res := rs', walk := w' } :=
  match_imp (dfs_root_any p rp path canon kids st hroot hbase hg ⟨hnd, hfresh⟩) fun _ _ ⟨w', h, _⟩ => ⟨w', h⟩

/-- **LIMIT N without ORDER BY returns the first min(N, M) rows of the unlimited search.**
    `sU` is the state after searching the root with the limit removed (M = rows found); then the
    limited search succeeds with a state `sL` such that the unlimited run wrote exactly `sL`'s chunks
    first, in the same order, followed by the chunks `cs` the limit cut off. -/
theorem dfs_streamed_limit (p : Plan) (rp : RootParams) (hb : p.q.isBuffered = false) (hn : 0 < p.q.limit)
    (path canon : Str) (kids : List Node) (st sU : WSt)
    (hroot : 1 < canon.length) (hbase : rp.base = calcDepth canon)
    (hg : goodL kids) (hnd : (inodesL kids).Nodup) (hfresh : ∀ i ∈ inodesL kids, i ∉ st.walk.visited)
    (h0 : st.res.found ≤ p.q.limit)
    (hU : visitDirD (unlimited p) rp path canon true kids st = .ok sU) :
    ∃ sL cs, visitDirD p rp path canon true kids st = .ok sL ∧
      sU.res.outRev = cs ++ sL.res.outRev ∧
      sU.res.found = sL.res.found + cs.length ∧
      sL.res.found = min p.q.limit sU.res.found :=
  limited_is_prefix p hb hn _ st.res _ _ sU (dfs_root_any p rp path canon kids st hroot hbase hg ⟨hnd, hfresh⟩)
    (dfs_root_any (unlimited p) rp path canon kids st hroot hbase hg ⟨hnd, hfresh⟩) h0 hU

/-- … in bytes: the limited stdout is a prefix of the unlimited stdout -/
theorem dfs_streamed_limit_bytes (p : Plan) (rp : RootParams) (hb : p.q.isBuffered = false) (hn : 0 < p.q.limit)
    (path canon : Str) (kids : List Node) (st sU : WSt)
    (hroot : 1 < canon.length) (hbase : rp.base = calcDepth canon)
    (hg : goodL kids) (hnd : (inodesL kids).Nodup) (hfresh : ∀ i ∈ inodesL kids, i ∉ st.walk.visited)
    (h0 : st.res.found ≤ p.q.limit)
    (hU : visitDirD (unlimited p) rp path canon true kids st = .ok sU) :
    ∃ sL rest, visitDirD p rp path canon true kids st = .ok sL ∧ sU.res.out = sL.res.out ++ rest := by
  obtain ⟨sL, cs, h1, h2, _, _⟩ := dfs_streamed_limit p rp hb hn path canon kids st sU hroot hbase hg hnd hfresh h0 hU
  exact ⟨sL, cs.reverse.flatten, h1, by simp [ResSt.out, h2]⟩

open WalkB WalkLimB C01 WalkRoot in
/-- `visit_dir(root)` and the queue loop under any plan: `check_file` over the level order, stopping at the limit (after
    which the queue is still drained, but nothing is examined or written: `drain_reached`) -/
theorem bfs_streamed_any_plan (p : Plan) (rp : RootParams) (path canon : Str) (kids : List Node) (st : WSt)
    (hq : st.walk.queue = [])
    (hg : goodL kids) (hnd : (inodesL kids).Nodup) (hfresh : ∀ i ∈ inodesL kids, i ∉ st.walk.visited) :
    match foldLim p st.res (checksL p rp (levelOrder rp [rootItem path canon kids])) with
    | .error a => bfsRoot p rp path canon kids st = .error a
    | .ok rs' => ∃ w', bfsRoot p rp path canon kids st = .ok { res := rs', walk := w' } ∧
        (limitReached p rs' = false → ∀ i, i ∈ w'.visited → i ∈ st.walk.visited ∨ i ∈ inodesL kids) :=
  (bfs_root_any p rp path canon kids st hq hg ⟨hnd, hfresh⟩).imp fun _ _ _ h2 h => (h2 h).2.2

open WalkB WalkLimB C01 WalkRoot in
/-- **LIMIT N without ORDER BY in breadth-first mode**: the first min(N, M) rows of the unlimited
    breadth-first search, in the same order -/
theorem bfs_streamed_limit (p : Plan) (rp : RootParams) (hb : p.q.isBuffered = false) (hn : 0 < p.q.limit)
    (path canon : Str) (kids : List Node) (st sU : WSt) (hq : st.walk.queue = [])
    (hg : goodL kids) (hnd : (inodesL kids).Nodup) (hfresh : ∀ i ∈ inodesL kids, i ∉ st.walk.visited)
    (h0 : st.res.found ≤ p.q.limit)
    (hU : bfsRoot (unlimited p) rp path canon kids st = .ok sU) :
    ∃ sL cs, bfsRoot p rp path canon kids st = .ok sL ∧
      sU.res.outRev = cs ++ sL.res.outRev ∧
      sU.res.found = sL.res.found + cs.length ∧
      sL.res.found = min p.q.limit sU.res.found :=
  limited_is_prefix p hb hn _ st.res _ _ sU (bfs_root_any p rp path canon kids st hq hg ⟨hnd, hfresh⟩)
    (bfs_root_any (unlimited p) rp path canon kids st hq hg ⟨hnd, hfresh⟩) h0 hU

open WalkB WalkLimB C01 WalkRoot in
/-- one plain root under any plan, either traversal: the result is `check_file` over the root's events,
    stopping at the limit; while the limit is not reached the traversal state only gains inode numbers of
    that root -/
theorem one_root_lim (p : Plan) (r : RootRec) (st : WSt)
    (hnd : r.inos.Nodup) (hfresh : ∀ i ∈ r.inos, i ∉ st.walk.visited) (hg : goodL r.kids) (hc : 1 < r.canon.length) :
    match foldLim p st.res (checksL p r.rp r.events) with
    | .error a => searchRoot p r.root (.dir r.e true r.kids r.canon) st = .error a
    | .ok rs' => ∃ w', searchRoot p r.root (.dir r.e true r.kids r.canon) st = .ok { res := rs', walk := w' } ∧
        (limitReached p rs' = false → ∀ i, i ∈ w'.visited → i ∈ st.walk.visited ∨ i ∈ r.inos) :=
  searchRoot_any p r.root r.e r.kids r.canon st (fun _ => ⟨hnd, hfresh⟩) hg hc

open C01 WalkRoot in
/-- once the limit is reached the remaining roots leave the result as it is -/
theorem roots_reached (p : Plan) (fs : FSnap) (multi : Bool) :
    ∀ (recs : List RootRec) (st : WSt), (∀ r ∈ recs, PlainRoot p fs r) → limitReached p st.res = true →
      ∃ w', searchRoots p fs multi (recs.map (·.root)) st = .ok { res := st.res, walk := w' } :=
  fun recs st hp h => by
    obtain ⟨w', hw, _⟩ := (roots_any p fs multi recs st hp fun h' => by rw [h] at h'; contradiction).ok
      (foldLim_reached p st.res h _)
    exact ⟨w', hw⟩

open C01 WalkRoot in
/-- **several disjoint roots under any plan** (limited or not): the roots are searched one after the other,
    each checking its own entries, until the streamed limit is reached; after that no root is examined any
    more -/
theorem roots_streamed_any_plan (p : Plan) (fs : FSnap) (multi : Bool) :
    ∀ (recs : List RootRec) (st : WSt), (∀ r ∈ recs, PlainRoot p fs r) →
      (recs.flatMap RootRec.inos).Nodup → (∀ i ∈ recs.flatMap RootRec.inos, i ∉ st.walk.visited) →
      match foldRootsLim p st.res recs with
      | .error a => searchRoots p fs multi (recs.map (·.root)) st = .error a
      | .ok rs' => ∃ w', searchRoots p fs multi (recs.map (·.root)) st = .ok { res := rs', walk := w' } :=
  fun recs st hp hnd hfr => foldRootsLim_flat p recs st.res ▸
    match_imp (roots_any p fs multi recs st hp fun _ => ⟨hnd, hfr⟩) fun _ _ ⟨w', h, _⟩ => ⟨w', h⟩

open C01 WalkRoot in
/-- **LIMIT N without ORDER BY over several roots**: whenever the unlimited search of all the roots succeeds
    with M rows, the limited search succeeds with exactly min(N, M) rows — the first chunks the unlimited
    search wrote, in the same order (roots in the order given, each in its own traversal mode) -/
theorem roots_streamed_limit (p : Plan) (fs : FSnap) (multi : Bool) (hb : p.q.isBuffered = false) (hn : 0 < p.q.limit)
    (recs : List RootRec) (st sU : WSt) (hp : ∀ r ∈ recs, PlainRoot p fs r)
    (hnd : (recs.flatMap RootRec.inos).Nodup) (hfr : ∀ i ∈ recs.flatMap RootRec.inos, i ∉ st.walk.visited)
    (h0 : st.res.found ≤ p.q.limit)
    (hU : searchRoots (unlimited p) fs multi (recs.map (·.root)) st = .ok sU) :
    ∃ sL cs, searchRoots p fs multi (recs.map (·.root)) st = .ok sL ∧
      sU.res.outRev = cs ++ sL.res.outRev ∧
      sU.res.found = sL.res.found + cs.length ∧
      sL.res.found = min p.q.limit sU.res.found :=
  limited_is_prefix p hb hn _ st.res _ _ sU (roots_any p fs multi recs st hp fun _ => ⟨hnd, hfr⟩)
    (roots_any (unlimited p) fs multi recs st hp fun _ => ⟨hnd, hfr⟩) h0 hU

/-- the hypotheses can be met: a plan with a streamed limit (`select name from . limit 2`) -/
example : ∃ q : Query, q.isBuffered = false ∧ 0 < q.limit :=
  ⟨{ fields := [.field false .Name], roots := [], expr := none, grouping := [], ordering := [], orderingAsc := [],
     limit := 2, format := .Tabs }, by decide, by decide⟩

/-- once the limit is reached nothing more is examined -/
theorem streamed_limit_stops (p : Plan) (rs : ResSt) (h : limitReached p rs = true) (es : List Entry) :
    foldLim p rs es = .ok rs := foldLim_reached p rs h es

/-- `limit 0` / no limit / a buffered query: the streamed cut-off never fires -/
theorem no_streamed_limit (p : Plan) (h : p.q.isBuffered = true ∨ p.q.limit = 0) (rs : ResSt) :
    limitReached p rs = false := noLimit_false p h rs

/-! ### LIMIT over grouped rows (D85 fix)

`finish` sorts the group rows, splits them into runs of ties and hands the run lengths to `cutRuns`; the rows
printed are `rows.take (kept runs).sum`, of which the implementation shows all but part of the last run.  The inductions
below meet the four clauses of `cutRuns` in order: no run left; the limit falls inside the first run (`lim < r`); on its
end (`lim = r`); beyond it (the run is kept, the rest cut at `lim - r`). -/

/-- the runs that are kept are the first runs of the sorted result, in order -/
theorem grouped_limit_keeps_prefix (lim : Nat) (runs : List Nat) : (cutRuns lim runs).1 <+: runs := by
  fun_induction cutRuns lim runs with
  | case1 => exact List.prefix_rfl
  | case2 => simp
  | case3 => simp
  | case4 lim r rs _ _ k c e ih => rw [e] at ih; exact (List.prefix_cons_inj r).mpr ih

/-- **the cut falls on a run boundary** (`cut = 0`): what is kept has at most `lim` rows, and exactly `lim` unless
    everything is kept — `min(lim, rows)` rows are shown, and they are the first ones -/
theorem grouped_limit_on_boundary (lim : Nat) (runs : List Nat) (hl : 0 < lim) (h : (cutRuns lim runs).2 = 0) :
    (cutRuns lim runs).1.sum ≤ lim ∧ ((cutRuns lim runs).1.sum = lim ∨ (cutRuns lim runs).1 = runs) := by
  fun_induction cutRuns lim runs with
  | case1 => simp
  | case2 => exact absurd h (Nat.ne_of_gt hl)
  | case3 => simp_all
  | case4 lim r rs h1 h2 k c e ih =>
    rw [e] at ih
    have hne : lim ≠ r := by simpa using h2
    obtain ⟨a, b⟩ := ih (by omega) h
    simp only [List.sum_cons] at a b ⊢
    exact ⟨by omega, b.imp (by omega) (congrArg _)⟩

/-- **the cut falls inside a run of ties** (`cut = c > 0`): the kept runs are whole runs holding fewer than `lim` rows,
    followed by the run that straddles the cut, of which `c` rows are shown — `lim` rows in all; which rows of that run
    is not determined (the property allows any resolution of a tie at the cut) -/
theorem grouped_limit_inside_run (lim : Nat) (runs : List Nat) (h : (cutRuns lim runs).2 ≠ 0) :
    ∃ pre r, (cutRuns lim runs).1 = pre ++ [r] ∧ pre.sum + (cutRuns lim runs).2 = lim ∧ (cutRuns lim runs).2 < r := by
  fun_induction cutRuns lim runs with
  | case1 => exact absurd rfl h
  | case2 lim r rs h1 => exact ⟨[], r, rfl, by simp, h1⟩
  | case3 => exact absurd rfl h
  | case4 lim r rs h1 h2 k c e ih =>
    rw [e] at ih
    obtain ⟨pre, r', e1, e2, e3⟩ := ih h
    exact ⟨r :: pre, r', congrArg _ e1, by simp only [List.sum_cons] at e2 ⊢; omega, e3⟩

/-- a concrete check: the cut inside a run, on a boundary, and beyond the rows -/
example : cutRuns 3 [2, 2, 1] = ([2, 2], 1) ∧ cutRuns 4 [2, 2, 1] = ([2, 2], 0) ∧ cutRuns 9 [2, 2, 1] = ([2, 2, 1], 0) := by decide

end Fsel.C06
