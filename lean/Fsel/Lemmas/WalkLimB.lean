/-
  The breadth-first walker (`visit_dir` with the directory queue) under any plan.  Listing one directory reports its
  entries, records their inode numbers and queues its sub-directories (`kidsB_lim`: the state afterwards is `afterKids`);
  the queue loop therefore follows `foldLim` over `bfsEvents`, the level order driven by the model's fuel (`drain_any`).
  After the limit is reached the queue is still drained (every queued directory is opened and left at once), but nothing
  is examined or written any more (`drain_reached`).
-/
import Fsel.Lemmas.WalkLim
import Fsel.Lemmas.WalkB

namespace Fsel
namespace WalkLimB
open WalkL WalkLim WalkB

theorem visitKidsB_reached (p : Plan) (rp : RootParams) (dp dc : Str) (lvl : Nat) (st : WSt)
    (h : limitReached p st.res = true) (ns : List Node) : visitKidsB p rp dp dc lvl st ns = .ok st := by
  cases ns with
  | nil => rw [visitKidsB]
  | cons n ns => rw [visitKidsB]; simp [h]

theorem visitKidsB_cons (p : Plan) (rp : RootParams) (dp dc : Str) (lvl : Nat) (st : WSt) (n : Node) (rest : List Node)
    (hg : goodN n) (hf : ∀ i ∈ topInos rp lvl [n], i ∉ st.walk.visited) :
    visitKidsB p rp dp dc lvl st (n :: rest) =
      if limitReached p st.res then .ok st else
      match reportEntry p rp lvl n (fillEntry n.entry dp dc n.entry.absPath) st.res with
      | .error a => .error a
      | .ok r1 => visitKidsB p rp dp dc lvl { res := r1, walk := afterKids rp dp dc lvl st.walk [n] } rest := by
  -- the walker's update (record the number of a directory or link, queue a directory) is `afterKids … [n]` by unfolding
  rw [visitKidsB]
  split
  · rfl
  simp only
  cases reportEntry p rp lvl n (fillEntry n.entry dp dc n.entry.absPath) st.res with
  | error a => rfl
  | ok r1 =>
    by_cases hmax : (rp.maxDepth == 0 || decide (lvl < rp.maxDepth)) = true
    · cases n with
      | dir de l kids =>
        have hkind : (de.kind != 'l') = true := by rw [hg.2.1]; decide
        have h1 : de.ino ∉ st.walk.visited := hf de.ino (by simp [topInos, hmax])
        simp [afterKids, topInos, kidsItems, hmax, okToVisit_fresh st.walk de h1, hkind, Node.entry]
      | leaf le z =>
        by_cases hk : (le.kind == 'l') = true
        · have h1 : le.ino ∉ st.walk.visited := hf le.ino (by simp [topInos, hmax, hk])
          simp [afterKids, topInos, kidsItems, hmax, okToVisit_fresh st.walk le h1, hk]
        · simp [afterKids, topInos, kidsItems, hmax, hk]
    · cases n <;> simp [afterKids, topInos, kidsItems, hmax]

/-- **one directory, breadth-first, under any plan**: the entries are checked until the limit is reached;
    when it is not reached the traversal state is the one of the unlimited listing -/
theorem kidsB_lim (p : Plan) (rp : RootParams) (dp dc : Str) (lvl : Nat) :
    ∀ (ns : List Node) (st : WSt), goodL ns → (topInos rp lvl ns).Nodup → (∀ i ∈ topInos rp lvl ns, i ∉ st.walk.visited) →
      match foldLim p st.res (checksL p rp (kidsEvents dp dc lvl ns)) with
      | .error a => visitKidsB p rp dp dc lvl st ns = .error a
      | .ok rs' => ∃ w', visitKidsB p rp dp dc lvl st ns = .ok { res := rs', walk := w' } ∧
          (limitReached p rs' = false → w' = afterKids rp dp dc lvl st.walk ns)
  | [], st, _, _, _ => by
    simp only [kidsEvents, List.map_nil, checksL_nil, foldLim]
    exact ⟨st.walk, by rw [visitKidsB], fun _ => by simp [afterKids, topInos, kidsItems]⟩
  | n :: ns, st, hg, hnd, hfr => by
    by_cases hl : limitReached p st.res = true
    · exact Follows.reached hl ⟨st.walk, visitKidsB_reached p rp _ _ _ st hl _⟩
    have hl' : limitReached p st.res = false := by simpa using hl
    rw [topInos_cons] at hnd hfr
    obtain ⟨hn, hrest⟩ := Fresh.move ⟨hnd, hfr⟩
    rw [kidsEvents_cons, checksL_cons, foldLim_append,
      ← reportEntry_eq p rp lvl n (fillEntry n.entry dp dc n.entry.absPath) st.res hl',
      visitKidsB_cons p rp dp dc lvl st n ns hg.1 hn.2]
    simp only [hl', Bool.false_eq_true, if_false]
    cases reportEntry p rp lvl n (fillEntry n.entry dp dc n.entry.absPath) st.res with
    | error a => rfl
    | ok r1 =>
      exact Follows.imp (kidsB_lim p rp dp dc lvl ns { res := r1, walk := afterKids rp dp dc lvl st.walk [n] } hg.2 hrest.1 hrest.2)
        fun _ _ _ h2 hnr => by rw [h2 hnr, ← afterKids_cons]

theorem visitDirB_reached (p : Plan) (rp : RootParams) (it : QItem) (st : WSt) (h : limitReached p st.res = true) :
    ∃ w', visitDirB p rp it st = .ok { res := st.res, walk := w' } := by
  unfold visitDirB
  split
  · exact ⟨_, rfl⟩
  · exact ⟨st.walk, visitKidsB_reached p rp _ _ _ st h _⟩

/-- once the limit is reached, draining the queue leaves the result alone -/
theorem drain_reached (p : Plan) (rp : RootParams) :
    ∀ (fuel : Nat) (st : WSt), limitReached p st.res = true →
      ∃ w', drainQueue p rp fuel st = .ok { res := st.res, walk := w' }
  | 0, st, _ => ⟨st.walk, by rw [drainQueue]⟩
  | fuel + 1, st, h => by
    rw [drainQueue]
    cases hq : st.walk.queue with
    | nil => exact ⟨st.walk, rfl⟩
    | cons it q =>
      obtain ⟨w', hw⟩ := visitDirB_reached p rp it { st with walk := { st.walk with queue := q } } h
      simp only [hw]
      exact drain_reached p rp fuel _ h

theorem drain_any (p : Plan) (rp : RootParams) :
    ∀ (fuel : Nat) (st : WSt), QGood st.walk.queue → Fresh st.walk.visited (qInos st.walk.queue) →
      Follows (foldLim p st.res (checksL p rp (bfsEvents rp fuel st.walk.queue))) (drainQueue p rp fuel st)
        fun rs' w' => limitReached p rs' = false →
          w'.errPaths = st.walk.errPaths ++ bfsFaults rp fuel st.walk.queue ∧
          w'.errCount = st.walk.errCount + (bfsFaults rp fuel st.walk.queue).length ∧
          WalkSub st.walk w' (qInos st.walk.queue)
  -- (not `WalkAfter`: the loop uses the queue up.)  After the limit: `drain_reached`.  A listable directory at the
  -- head: its entries by `kidsB_lim`, then (`Follows.seq`) the rest of the loop by induction, the freshness invariant
  -- carried over by `inv_step` and the recorded numbers brought back by `step_sub`.  An unlistable one: one fault,
  -- then the rest of the loop.
  | 0, st, _, _ => ⟨st.walk, rfl, fun _ => ⟨by simp [bfsFaults], by simp [bfsFaults], fun i h => Or.inl h⟩⟩
  | fuel + 1, st, hg, hfr => by
    by_cases hl : limitReached p st.res = true
    · exact Follows.reached hl (drain_reached p rp (fuel + 1) st hl)
    cases hq : st.walk.queue with
    | nil =>
      simp only [bfsEvents, checksL_nil, foldLim, drainQueue, hq, bfsFaults]
      exact ⟨st.walk, rfl, fun _ => ⟨by simp, by simp, fun i h => Or.inl h⟩⟩
    | cons it q =>
      rw [hq, qInos_cons] at hfr
      rw [hq] at hg
      simp only [bfsEvents, bfsFaults, qInos_cons]
      rw [drainQueue]
      simp only [hq]
      unfold visitDirB
      cases hlist : it.listable with
      | true =>
        simp only [Bool.not_true, Bool.false_eq_true, if_false, if_true, checksL_append]
        have hgi : goodL it.kids := hg it (by simp)
        obtain ⟨i1, i3⟩ := inv_step rp it.path it.canon (itemDepth rp it) it.kids q st.walk.visited hfr
        refine Follows.seq (kidsB_lim p rp it.path it.canon _ it.kids { st with walk := { st.walk with queue := q } } hgi i1.1 i1.2)
          fun r1 w1 _ hk2 => ?_
        by_cases hr1 : limitReached p r1 = true
        · exact Follows.reached hr1 (drain_reached p rp fuel _ hr1)
        rw [hk2 (by simpa using hr1)]
        have hgq : QGood (q ++ kidsItems rp it.path it.canon (itemDepth rp it) it.kids) := fun x hx =>
          (List.mem_append.mp hx).elim (fun h => hg x (by simp [h])) (items_good rp _ _ _ it.kids hgi x)
        refine (drain_any p rp fuel { res := r1, walk := afterKids rp it.path it.canon (itemDepth rp it) { st.walk with queue := q } it.kids }
          hgq i3).imp fun rs' w' _ h4 hnr => ?_
        obtain ⟨e1, e2, e3⟩ := h4 hnr
        exact ⟨e1, e2, fun i hi => step_sub rp it.path it.canon _ it.kids q _ i (e3 i hi)⟩
      | false =>
        simp only [Bool.not_false, if_true, Bool.false_eq_true, if_false]
        refine (drain_any p rp fuel
          { st with walk := { st.walk with queue := q, errCount := st.walk.errCount + 1, errPaths := st.walk.errPaths ++ [it.path] } }
          (fun x hx => hg x (by simp [hx])) (hfr.perm List.perm_append_comm).append.1).imp fun rs' w' _ h4 hnr => ?_
        obtain ⟨e1, e2, e3⟩ := h4 hnr
        dsimp only at e1 e2
        exact ⟨by rw [e1, List.append_assoc]; rfl, by rw [e2, List.length_cons]; omega,
          fun i hi => (e3 i hi).imp_right (List.mem_append_right _)⟩

theorem drain_lim (p : Plan) (rp : RootParams) :
    ∀ (fuel : Nat) (st : WSt), QGood st.walk.queue → (qInos st.walk.queue).Nodup →
      (∀ i ∈ qInos st.walk.queue, i ∉ st.walk.visited) →
      match foldLim p st.res (checksL p rp (bfsEvents rp fuel st.walk.queue)) with
      | .error a => drainQueue p rp fuel st = .error a
      | .ok rs' => ∃ w', drainQueue p rp fuel st = .ok { res := rs', walk := w' } ∧
          (limitReached p rs' = false → ∀ i, i ∈ w'.visited → i ∈ st.walk.visited ∨ i ∈ qInos st.walk.queue) :=
  fun fuel st hg hnd hfr => (drain_any p rp fuel st hg ⟨hnd, hfr⟩).imp fun _ _ _ h2 h => (h2 h).2.2

end WalkLimB
end Fsel
