/-
  The expression parser implements the usual arithmetic grammar
      E ::= E (+|-) T | T      T ::= T (*|/|%) F | F      F ::= atom | ( E ) | { E } | fn ( E )
  with left-associative operators: for every derivation, parsing its token sequence gives the tree the derivation
  denotes and leaves exactly the tokens that follow.  The inside of a bracket is read by `parse_expr`, which is
  why the stop predicates of the condition loops appear here too.
-/
import Fsel.Lemmas.ParseRun

namespace Fsel
namespace ParseL
open ParseC

/-- an atom: tokens that `parse_paren` consumes exactly, yielding `x`, whatever follows -/
def AtomOK (bs : Bool) (a : List Lexem) (x : Expr) : Prop :=
  ∀ r, (parseParen bs (a ++ r)).res = .ok x ∧ (parseParen bs (a ++ r)).rest = r

-- derivations of the arithmetic grammar
mutual
inductive F where
  | atom (a : List Lexem) (x : Expr)
  | paren (e : E)
  | cparen (e : E)
  | call (s : Str) (fn : Function) (e : E)      -- a one-argument function call `fn(e)`
inductive TTail where
  | nil
  | cons (s : Str) (op : ArithOp) (f : F) (rest : TTail)
inductive T where
  | mk (hd : F) (tl : TTail)
inductive ETail where
  | nil
  | cons (s : Str) (op : ArithOp) (t : T) (rest : ETail)
inductive E where
  | mk (hd : T) (tl : ETail)
end

-- the token sequence of a derivation
mutual
def F.toks : F → List Lexem
  | .atom a _ => a
  | .paren e => .open_ :: (e.toks ++ [.close])
  | .cparen e => .copen :: (e.toks ++ [.cclose])
  | .call s _ e => .raw s :: .open_ :: (e.toks ++ [.close])
def TTail.toks : TTail → List Lexem
  | .nil => []
  | .cons s _ f rest => .arith s :: (f.toks ++ rest.toks)
def T.toks : T → List Lexem
  | .mk hd tl => hd.toks ++ tl.toks
def ETail.toks : ETail → List Lexem
  | .nil => []
  | .cons s _ t rest => .arith s :: (t.toks ++ rest.toks)
def E.toks : E → List Lexem
  | .mk hd tl => hd.toks ++ tl.toks
end

-- the tree a derivation denotes: operators of one level associate to the left
mutual
def F.tree : F → Expr
  | .atom _ x => x
  | .paren e => e.tree
  | .cparen e => e.tree
  | .call _ fn e => .func false fn e.tree []
def TTail.fold : TTail → Expr → Expr
  | .nil, left => left
  | .cons _ op f rest, left => rest.fold (.arith left op f.tree)
def T.tree : T → Expr
  | .mk hd tl => tl.fold hd.tree
def ETail.fold : ETail → Expr → Expr
  | .nil, left => left
  | .cons _ op t rest, left => rest.fold (.arith left op t.tree)
def E.tree : E → Expr
  | .mk hd tl => tl.fold hd.tree
end

-- side conditions: atoms are atoms, operator tokens belong to their level, and a bracketed expression is not one
-- that the WHERE shorthand rewrites and does not begin with NOT (the inside of a bracket goes through `parse_cond`,
-- which would take a leading NOT as its prefix)
mutual
def F.WF (bs : Bool) : F → Prop
  | .atom a x => AtomOK bs a x
  | .paren e => e.WF bs ∧ boolShorthand bs e.tree = e.tree ∧ e.toks.head? ≠ some .not_
  | .cparen e => e.WF bs ∧ boolShorthand bs e.tree = e.tree ∧ e.toks.head? ≠ some .not_
  | .call s fn e => Field.ofStr? s = none ∧ Function.ofStr? s = some fn ∧
      e.WF bs ∧ boolShorthand bs e.tree = e.tree ∧ e.toks.head? ≠ some .not_
def TTail.WF (bs : Bool) : TTail → Prop
  | .nil => True
  | .cons s op f rest => isMulOp s op ∧ f.WF bs ∧ rest.WF bs
def T.WF (bs : Bool) : T → Prop
  | .mk hd tl => hd.WF bs ∧ tl.WF bs
def ETail.WF (bs : Bool) : ETail → Prop
  | .nil => True
  | .cons s op t rest => isAddOp s op ∧ t.WF bs ∧ rest.WF bs
def E.WF (bs : Bool) : E → Prop
  | .mk hd tl => hd.WF bs ∧ tl.WF bs
end

theorem pr_eta {b : Bool} {α : Type} {ts : List Lexem} (p : PR b α ts) :
    p = ⟨p.res, p.rest, p.le, p.progress⟩ := by cases p; rfl

theorem stopMul_etail (tl : ETail) (bs : Bool) (h : tl.WF bs) (r : List Lexem) (hr : StopAdd r) : StopMul (tl.toks ++ r) := by
  cases tl with
  | nil => simpa [ETail.toks] using stopMul_of_stopAdd hr
  | cons s op t rest =>
    simp only [ETail.toks, List.cons_append, StopMul]
    simp only [ETail.WF] at h
    exact addOp_not_mul h.1

theorem head_append_not {a b : List Lexem} (ha : a.head? ≠ some .not_) (hb : a = [] → b.head? ≠ some .not_) :
    (a ++ b).head? ≠ some .not_ := by
  cases a with
  | nil => exact hb rfl
  | cons y ys => exact ha

/-- the inside of a bracket is an arithmetic operand that `parse_expr` reads up to the closing bracket -/
theorem inside_bracket (bs : Bool) {e : E} (he : Reads (parseAddSub bs) e.toks StopAdd e.tree)
    (hbool : boolShorthand bs e.tree = e.tree) (hnot : e.toks.head? ≠ some .not_) {c : Lexem} {r : List Lexem}
    (hc : StopOr (c :: r)) : (parseExpr bs (e.toks ++ c :: r)).out = (.ok e.tree, c :: r) := by
  have hcn : (c :: r).head? ≠ some .not_ := fun h => by
    cases Option.some.inj h
    simp [StopOr, StopCond] at hc
  rw [parseExpr_operand bs (head_append_not hnot (fun _ => hcn))
    (he.out (stopAdd_of_stopCond (stopCond_of_stopAnd (stopAnd_of_stopOr hc)))) hc, hbool]

mutual
theorem parse_F (bs : Bool) : ∀ (f : F), f.WF bs → ∀ (r ts : List Lexem), ts = f.toks ++ r →
    (parseParen bs ts).res = .ok f.tree ∧ (parseParen bs ts).rest = r
  | .atom a x, h => fun r ts hts => by
    subst hts
    exact h r
  | .paren e, ⟨hw, hbool, hnot⟩ => reads_of_out fun r => by
    rw [F.toks, List.cons_append, List.append_assoc, List.singleton_append, parseParen_open_out,
      inside_bracket bs (parse_E bs e hw) hbool hnot (stopOr_close r)]
    rfl
  | .cparen e, ⟨hw, hbool, hnot⟩ => reads_of_out fun r => by
    rw [F.toks, List.cons_append, List.append_assoc, List.singleton_append, parseParen_copen_out,
      inside_bracket bs (parse_E bs e hw) hbool hnot (stopOr_cclose r)]
    rfl
  | .call s fn e, ⟨hfld, hfn, hw, hbool, hnot⟩ => reads_of_out fun r => by
    rw [F.toks, List.cons_append, List.cons_append, List.append_assoc, List.singleton_append,
      parseParen_raw, leafP_raw_out, hfld, hfn]
    dsimp only
    rw [parseFunction_out]
    dsimp only [fnHeader]
    rw [inside_bracket bs (parse_E bs e hw) hbool hnot (stopOr_close r)]
    dsimp only
    rw [argsLoop_close]
    rfl

theorem parse_TTail (bs : Bool) : ∀ (tl : TTail), tl.WF bs → ∀ (left : Expr) (r ts : List Lexem), StopMul r → ts = tl.toks ++ r →
      (mulLoop bs left ts).res = .ok (tl.fold left) ∧ (mulLoop bs left ts).rest = r
  | .nil, _, left => Reads.of_out fun _ hr => mulLoop_stop bs left _ hr
  | .cons s op f rest, ⟨hop, hf, hrest⟩, left => Reads.of_out fun r hr => by
    rw [TTail.toks, List.cons_append, List.append_assoc, mulLoop_step bs left _ hop,
      out_iff.2 (parse_F bs f hf _ _ rfl)]
    exact Reads.out (parse_TTail bs rest hrest _) hr

/-- a term: factors joined by `*`, `/`, `%`, associating to the left -/
theorem parse_T (bs : Bool) : ∀ (t : T), t.WF bs → ∀ (r ts : List Lexem), StopMul r → ts = t.toks ++ r →
    (parseMulDiv bs ts).res = .ok t.tree ∧ (parseMulDiv bs ts).rest = r
  | .mk hd tl, ⟨hhd, htl⟩ => Reads.of_out fun r hr => by
    rw [T.toks, List.append_assoc, parseMulDiv_out, out_iff.2 (parse_F bs hd hhd _ _ rfl)]
    exact Reads.out (parse_TTail bs tl htl hd.tree) hr

theorem parse_ETail (bs : Bool) : ∀ (tl : ETail), tl.WF bs → ∀ (left : Expr) (r ts : List Lexem), StopAdd r → ts = tl.toks ++ r →
      (addLoop bs left ts).res = .ok (tl.fold left) ∧ (addLoop bs left ts).rest = r
  | .nil, _, left => Reads.of_out fun _ hr => addLoop_stop bs left _ hr
  | .cons s op t rest, ⟨hop, ht, hrest⟩, left => Reads.of_out fun r hr => by
    rw [ETail.toks, List.cons_append, List.append_assoc, addLoop_step bs left _ hop,
      Reads.out (parse_T bs t ht) (stopMul_etail rest bs hrest r hr)]
    exact Reads.out (parse_ETail bs rest hrest _) hr

/-- an expression: terms joined by `+`, `-`, associating to the left -/
theorem parse_E (bs : Bool) : ∀ (e : E), e.WF bs → ∀ (r ts : List Lexem), StopAdd r → ts = e.toks ++ r →
    (parseAddSub bs ts).res = .ok e.tree ∧ (parseAddSub bs ts).rest = r
  | .mk hd tl, ⟨hhd, htl⟩ => Reads.of_out fun r hr => by
    rw [E.toks, List.append_assoc, parseAddSub_out, Reads.out (parse_T bs hd hhd) (stopMul_etail tl bs htl r hr)]
    exact Reads.out (parse_ETail bs tl htl hd.tree) hr
end

theorem E.reads (bs : Bool) {e : E} (h : e.WF bs) : Reads (parseAddSub bs) e.toks StopAdd e.tree := parse_E bs e h

end ParseL
end Fsel
