/-
  `compareValues` on a text-typed left operand: it reads only the two texts, and every operator that
  reaches it is complemented by its negation (BETWEEN never does: the parser desugars it).
-/
import Fsel.Model.Eval
import Fsel.Lemmas.Text

namespace Fsel
namespace CompareL

/-- a text comparison reads nothing of its operands but their texts -/
theorem compareValues_string (today : Int) (c : RxCache) (fv v : Variant) (op : Op) (hty : fv.ty = .string) :
    compareValues today c fv op v = compareValues today c (.ofString fv.text) op (.ofString v.text) := by
  unfold compareValues
  rw [hty]
  rfl

/-- how `compareValues` turns a pattern test into a verdict: `neg` is the polarity of the operator -/
def wrapRx (neg : Bool) (x : EM (Bool × RxCache)) : EM (CmpRes × RxCache) :=
  match x with
  | .ok (b, c1) => .ok (.val (b != neg), c1)
  | .error e => .error e

/-- the two polarities of a regex test: same cache, same error, opposite verdict -/
theorem rx_negate (n : CmpRes → CmpRes) (hn : ∀ b, n (.val b) = .val (!b)) (r : EM (Bool × RxCache)) (neg : Bool) :
    wrapRx (!neg) r = (wrapRx neg r).map (fun r => (n r.1, r.2)) := by
  rcases r with e | ⟨b, c⟩
  · rfl
  · simp only [wrapRx, Except.map, hn]
    cases b <;> cases neg <;> rfl

/-- `===` / `!==` compare the literal text, wildcard characters included -/
theorem text_eeq (today : Int) (c : RxCache) (subj lit : Str) :
    compareValues today c (.ofString subj) .Eeq (.ofString lit) = .ok (.val (lit == subj), c) ∧
    compareValues today c (.ofString subj) .Ene (.ofString lit) = .ok (.val (lit != subj), c) :=
  ⟨rfl, rfl⟩

/-- on text every operator and its negation are complementary, for every literal (wildcards or not) and
    every cache content, and both leave the same cache.  `n` is any negation of verdicts: text comparisons
    are never uncertain, so only its value on `.val` matters. -/
theorem text_negate (n : CmpRes → CmpRes) (hn : ∀ b, n (.val b) = .val (!b))
    (today : Int) (c : RxCache) (fv v : Variant) (op : Op) (hty : fv.ty = .string)
    (hop : op ≠ .Between ∧ op ≠ .NotBetween) :
    compareValues today c fv op.negate v = (compareValues today c fv op v).map (fun r => (n r.1, r.2)) := by
  unfold compareValues
  simp only [hty]
  cases op with
  | Between => exact absurd rfl hop.1
  | NotBetween => exact absurd rfl hop.2
  -- `wrapRx` is by definition the local `rx` of `compareValues`, which is why `rx_negate` applies as it stands
  | Rx | Like => exact rx_negate n hn _ false
  | NotRx | NotLike => exact rx_negate n hn _ true
  | Eq =>
    simp only [Op.negate]
    split
    · exact rx_negate n hn _ false
    · simp only [Except.map, hn, bne]
  | Ne =>
    simp only [Op.negate]
    split
    · exact rx_negate n hn _ true
    · simp only [Except.map, hn, bne, Bool.not_not]
  -- `>`/`<=` and `>=`/`<`: `strLe a b = !strLt b a`
  | _ => simp only [Op.negate, Except.map, hn, bne, CriteriaL.strLe_eq_not_strLt, Bool.not_not]

end CompareL
end Fsel
