/-
  C18  Following symlinks finds what is behind them, once, and always terminates.

  Model: `Follow.lean` (`visit_dir` with `current_follow_symlinks`, after the fixes of D27, D43, D44/D45, D46).
  Idea: the follow-mode walker is defined WITHOUT FUEL: every recursive descent (dfs) and every queue push (bfs)
  removes one inode number from the finite list `fresh` (the complement of `visited_inodes`), each function
  returns — in its type — the facts that the measure `fresh.length + queue.length` did not grow, that
  `visited_dirs` was only extended and that it stays duplicate-free, and Lean's termination checker accepts
  the (mutually recursive) definitions on that measure.  So "the search terminates on every tree, including
  links to ancestors, mutual links and self-links" holds of the model by construction, for every tree.
  The theorems are read off those types, or are one-step unfoldings.
  Not theorems: that the rows found are *all* entries behind the links (completeness relative to an
  os.walk(followlinks=True) reference with realpath de-duplication) and the exit status are decided by the
  correspondence and that oracle; depth windows combined with links follow the canonical-path depth of the
  code and are compared with the model only.
-/
import Fsel.Model.Follow
import Fsel.Lemmas.Walk

namespace Fsel.C18
open Fsel

/-- every step of the depth-first walk returns a state whose measure did not grow -/
theorem dfs_measure (cx : FCtx) (p : Plan) (rp : RootParams) (path canon : Str) (l : Bool) (kids : List Node) (st : WSt)
    (w : Within st.walk) (_h : fVisitD cx p rp path canon l kids st = .ok w) : w.s.walk.meas ≤ st.walk.meas := w.le

theorem bfs_measure (cx : FCtx) (p : Plan) (rp : RootParams) (it : QItem) (st : WSt)
    (w : Within st.walk) (_h : fVisitB cx p rp it st = .ok w) : w.s.walk.meas ≤ st.walk.meas := w.le

/-- the queue loop returns a state or an abort for every state.  True of every Lean function of that type: what this and
    `root_search_total` record is that the definitions were accepted as they stand, without fuel. -/
theorem drain_total (cx : FCtx) (p : Plan) (rp : RootParams) (st : WSt) :
    (∃ d, fDrain cx p rp st = .ok d) ∨ (∃ a, fDrain cx p rp st = .error a) := by
  cases h : fDrain cx p rp st with
  | ok d => exact Or.inl ⟨d, rfl⟩
  | error a => exact Or.inr ⟨a, rfl⟩

theorem root_search_total (cx : FCtx) (p : Plan) (root : Root) (res : RootRes) (st : WSt) :
    (∃ s, searchRootFollow cx p root res st = .ok s) ∨ (∃ a, searchRootFollow cx p root res st = .error a) := by
  cases h : searchRootFollow cx p root res st with
  | ok s => exact Or.inl ⟨s, rfl⟩
  | error a => exact Or.inr ⟨a, rfl⟩

/-- **each real directory at most once (dfs)**: `visited_dirs` (canonical paths) is only extended and never holds a
    directory twice -/
theorem each_directory_once_dfs (cx : FCtx) (p : Plan) (rp : RootParams) (path canon : Str) (l : Bool) (kids : List Node)
    (st : WSt) (w : Within st.walk) (_h : fVisitD cx p rp path canon l kids st = .ok w)
    (hn : st.walk.visitedDirs.Nodup) : w.s.walk.visitedDirs.Nodup ∧ st.walk.visitedDirs <+: w.s.walk.visitedDirs :=
  ⟨w.nodup hn, w.pre⟩

theorem each_directory_once_bfs (cx : FCtx) (p : Plan) (rp : RootParams) (st : WSt) (d : Drained st.walk)
    (_h : fDrain cx p rp st = .ok d) (hn : st.walk.visitedDirs.Nodup) :
    d.s.walk.visitedDirs.Nodup ∧ st.walk.visitedDirs <+: d.s.walk.visitedDirs :=
  ⟨d.nodup hn, d.pre⟩

/-- a whole root, either traversal mode, guarantees of `visited_dirs` what `Within` and `Drained` guarantee of the
    calls it is made of -/
theorem searchRootFollow_visitedDirs (cx : FCtx) (p : Plan) (root : Root) (res : RootRes) (st s' : WSt)
    (h : searchRootFollow cx p root res st = .ok s') :
    st.walk.visitedDirs <+: s'.walk.visitedDirs ∧ (st.walk.visitedDirs.Nodup → s'.walk.visitedDirs.Nodup) := by
  unfold searchRootFollow at h
  cases res with
  | missing => cases h; exact ⟨List.prefix_refl _, id⟩
  | notDir e c => cases h; exact ⟨List.prefix_refl _, id⟩
  | dir e l kids canon =>
    simp only at h
    split at h
    · -- breadth-first: the root directory, then the queue
      split at h
      · cases h
      · next w _ =>
        split at h
        · cases h
        · next d _ =>
          cases h
          exact ⟨w.pre.trans d.pre, fun hn => d.nodup (w.nodup hn)⟩
    · split at h
      · cases h
      · next w _ =>
        cases h
        exact ⟨w.pre, w.nodup⟩

theorem each_directory_once_root (cx : FCtx) (p : Plan) (root : Root) (res : RootRes) (st s' : WSt)
    (h : searchRootFollow cx p root res st = .ok s') (hn : st.walk.visitedDirs.Nodup) : s'.walk.visitedDirs.Nodup :=
  (searchRootFollow_visitedDirs cx p root res st s' h).2 hn

/-- a directory whose canonical path is already in `visited_dirs` is not read again -/
theorem visited_directory_is_skipped (cx : FCtx) (p : Plan) (rp : RootParams) (path canon : Str) (l : Bool) (kids : List Node)
    (st : WSt) (h : st.walk.visitedDirs.contains canon = true) :
    ∃ w, fVisitD cx p rp path canon l kids st = .ok w ∧ w.s = st := by
  unfold fVisitD
  simp only [h, dite_true]
  exact ⟨_, rfl, rfl⟩

theorem visited_directory_is_skipped_bfs (cx : FCtx) (p : Plan) (rp : RootParams) (it : QItem) (st : WSt)
    (h : st.walk.visitedDirs.contains it.canon = true) :
    ∃ w, fVisitB cx p rp it st = .ok w ∧ w.s = st := by
  unfold fVisitB
  simp only [h, dite_true]
  exact ⟨_, rfl, rfl⟩

/-- entering a directory records its canonical path before anything in it is looked at -/
theorem directory_entered_is_marked (cx : FCtx) (p : Plan) (rp : RootParams) (path canon : Str) (kids : List Node)
    (st : WSt) (h : st.walk.visitedDirs.contains canon = false) (w : Within st.walk)
    (hr : fVisitD cx p rp path canon true kids st = .ok w) : canon ∈ w.s.walk.visitedDirs := by
  unfold fVisitD at hr
  have hv : ¬ st.walk.visitedDirs.contains canon = true := fun hc => by rw [h] at hc; cases hc
  simp only [hv, dite_false, Bool.not_true, Bool.false_eq_true, if_false] at hr
  split at hr
  · cases hr
  · next w2 _ =>
    cases hr
    -- `markDir` has appended `canon`, and the entries are walked from that state
    have hpre : (st.walk.visitedDirs ++ [canon]) <+: w2.s.walk.visitedDirs := w2.pre
    exact hpre.subset (by simp)

/-- how the path of a followed link is spelled (D43 fix) -/
theorem link_target_spelling (cx : FCtx) (dirPath : Str) (le : Entry) (t real : Str) (l : Bool) (kids : List Node) (e : Entry)
    (ht : le.linkTarget = some t) (hr : le.absPath = some real) (hn : cx.nodeAt real = some (.dir e l kids)) :
    linkTargetDir cx dirPath le = some (if startsWith t ['/'] then t else joinPath dirPath t, real, l, kids) := by
  simp [linkTargetDir, ht, hr, hn]

/-- a link that does not resolve to a directory is not entered: its own row only (D44 fix) -/
theorem link_to_non_directory_not_entered (cx : FCtx) (p : Plan) (rp : RootParams) (dirPath dirCanon : Str) (depth : Nat)
    (st : WSt) (le : Entry) (z : Option (List ArcInfo)) (rest : List Node)
    (hk : le.kind = 'l') (hnd : linkTargetDir cx dirPath le = none) (hlim : limitReached p st.res = false)
    (r1 : ResSt) (hrep : reportEntry p rp depth (.leaf le z) (fillEntry le dirPath dirCanon le.absPath) st.res = .ok r1) :
    fKidsD cx p rp dirPath dirCanon depth st (.leaf le z :: rest) =
      match fKidsD cx p rp dirPath dirCanon depth (withRes st r1).s rest with
      | .error a => .error a
      | .ok w2 => .ok ((withRes st r1).trans w2) := by
  rw [fKidsD]
  simp only [hlim, Bool.false_eq_true, if_false, Node.entry, hrep]
  have hd : descentTarget cx dirPath dirCanon (.leaf le z) (fillEntry le dirPath dirCanon le.absPath) = none := by
    simp [descentTarget, hk, hnd]
  split
  · simp only [hd]
    cases fKidsD cx p rp dirPath dirCanon depth (withRes st r1).s rest <;> rfl
  · cases fKidsD cx p rp dirPath dirCanon depth (withRes st r1).s rest <;> rfl

/-- without the option: a link contributes its own event and nothing from behind it (the specification `eventsN`; the
    walker conforms to it by `C01.dfs_root_exact`) -/
theorem without_option_links_not_entered (rp : RootParams) (dp dc : Str) (lvl : Nat) (le : Entry) (z : Option (List ArcInfo)) :
    WalkL.eventsN rp dp dc lvl (.leaf le z) = [(.leaf le z, fillEntry le dp dc le.absPath, lvl)] := rfl

end Fsel.C18
