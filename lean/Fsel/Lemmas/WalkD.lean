/-
  The depth-first walker (`visit_dir` with `traversal = Dfs`) under any plan.  `dfs_list_any`: on the entries of one
  directory it follows `foldLim` over their pruned pre-order and records the faults met (one induction over the
  forest; `dfsNode_of_kids` is the step for one entry).  `dfs_root_any` is the root call; the step is restated for one entry at the end.
-/
import Fsel.Lemmas.WalkLim

namespace Fsel
namespace WalkLim
open WalkL

theorem visitKidsD_reached (p : Plan) (rp : RootParams) (dp dc : Str) (lvl : Nat) (st : WSt)
    (h : limitReached p st.res = true) (ns : List Node) : visitKidsD p rp dp dc lvl st ns = .ok st := by
  cases ns with
  | nil => rw [visitKidsD]
  | cons n ns => rw [visitKidsD]; simp [h]

theorem visitDirD_reached (p : Plan) (rp : RootParams) (path canon : Str) (l : Bool) (kids : List Node) (st : WSt)
    (h : limitReached p st.res = true) : ∃ w', visitDirD p rp path canon l kids st = .ok { res := st.res, walk := w' } := by
  rw [visitDirD]
  split
  · exact ⟨_, rfl⟩
  · exact ⟨st.walk, visitKidsD_reached p rp _ _ _ st h _⟩

/-- the walker on a forest (the entries of one directory) follows the fold over its events; the traversal state
    changes as `WalkAfter` says, by the faults `fs` met so far, which are all of them unless the limit cut the walk short.  The three depth
    hypotheses tie the depth the walker recomputes (`calcDepth canon - base + 1`) to the counter `lvl` of the events. -/
def DfsForest (p : Plan) (rp : RootParams) (ns : List Node) : Prop :=
  ∀ (dirPath dirCanon : Str) (lvl : Nat), 1 < dirCanon.length → rp.base ≤ calcDepth dirCanon →
    calcDepth dirCanon - rp.base + 1 = lvl → ∀ st : WSt, goodL ns → Fresh st.walk.visited (inodesL ns) →
      Follows (foldLim p st.res (checksL p rp (eventsL rp dirPath dirCanon lvl ns))) (visitKidsD p rp dirPath dirCanon lvl st ns)
        fun rs' w' => ∃ fs, WalkAfter st.walk w' (inodesL ns) fs ∧
          (limitReached p rs' = false → fs = faultsL rp dirPath dirCanon lvl ns)

/-- … and on one entry `n`, reported and descended into before its siblings `rest` -/
def DfsNode (p : Plan) (rp : RootParams) (n : Node) : Prop :=
  ∀ (dirPath dirCanon : Str) (lvl : Nat), 1 < dirCanon.length → rp.base ≤ calcDepth dirCanon →
    calcDepth dirCanon - rp.base + 1 = lvl → ∀ (rest : List Node) (st : WSt), goodN n → Fresh st.walk.visited (inodesN n) →
      match foldLim p st.res (checksL p rp (eventsN rp dirPath dirCanon lvl n)) with
      | .error a => visitKidsD p rp dirPath dirCanon lvl st (n :: rest) = .error a
      | .ok rs' => ∃ w' fs, WalkAfter st.walk w' (inodesN n) fs ∧
          (limitReached p rs' = false → fs = faultsN rp dirPath dirCanon lvl n) ∧
          visitKidsD p rp dirPath dirCanon lvl st (n :: rest) =
            visitKidsD p rp dirPath dirCanon lvl { res := rs', walk := w' } rest

theorem dfsNode_of_kids (p : Plan) (rp : RootParams) (n : Node)
    (hk : ∀ de l kids, n = .dir de l kids → DfsForest p rp kids) : DfsNode p rp n := by
  intro dirPath dirCanon lvl hc hb hlvl rest st hg hfr
  by_cases hl : limitReached p st.res = true
  · rw [foldLim_reached p st.res hl]
    exact ⟨st.walk, [], (WalkAfter.refl _).mono (by simp), fun h => by rw [hl] at h; contradiction,
      by rw [visitKidsD_reached p rp _ _ _ st hl, visitKidsD_reached p rp _ _ _ _ hl]⟩
  have hl' : limitReached p st.res = false := by simpa using hl
  -- the first event of an entry is the entry itself: its report is `foldLim` over `checksOf` of that event, and what
  -- is left are the events below it.  Then by cases: no descent (depth limit); a leaf (a link has its number
  -- recorded); an unlistable directory (one fault); a listable one (the forest statement for its entries, one level down)
  have hev : eventsN rp dirPath dirCanon lvl n =
      (n, fillEntry n.entry dirPath dirCanon n.entry.absPath, lvl) :: (eventsN rp dirPath dirCanon lvl n).tail := by
    cases n <;> rfl
  rw [hev, checksL_cons, foldLim_append, ← reportEntry_eq p rp lvl n _ st.res hl', visitKidsD]
  simp only [hl', Bool.false_eq_true, if_false]
  cases hr : reportEntry p rp lvl n (fillEntry n.entry dirPath dirCanon n.entry.absPath) st.res with
  | error a => rfl
  | ok r1 =>
    by_cases hmax : (rp.maxDepth == 0 || decide (lvl < rp.maxDepth)) = true
    · simp only [hmax, if_true]
      match n, hg, hfr, hk with
      | .leaf le z, _, _, _ =>
        simp only [eventsN, List.tail_cons, checksL_nil, foldLim, faultsN, inodesN]
        by_cases hlink : (le.kind == 'l') = true
        · simp only [hlink, if_true]
          exact ⟨_, [], walkAfter_okToVisit st.walk le, fun _ => rfl, rfl⟩
        · simp only [hlink]
          exact ⟨_, [], WalkAfter.refl _, fun _ => rfl, rfl⟩
      | .dir de listable kids, hg, hfr, hk =>
        obtain ⟨hname, hkd, hgk⟩ := hg
        simp only [inodesN] at hfr
        obtain ⟨hfd, hfk⟩ := hfr.cons
        simp only [eventsN, List.tail_cons, faultsN, inodesN, hmax, if_true, Bool.true_and, Node.entry]
        rw [okToVisit_fresh st.walk de hfd]
        have hva := walkAfter_visit st.walk de.ino
        have hkind : (de.kind != 'l') = true := by rw [hkd]; decide
        simp only [hkind, if_true]
        rw [visitDirD]
        cases listable with
        | false =>
          simp only [Bool.not_false, if_true, Bool.false_eq_true, if_false, checksL_nil, foldLim]
          exact ⟨_, _, (hva.trans (walkAfter_fault _ _)).mono (by simp), fun _ => rfl, rfl⟩
        | true =>
          simp only [Bool.not_true, Bool.false_eq_true, if_false, if_true]
          have hd := depth_child dirCanon de.name rp.base hname hc hb
          rw [hd, hlvl]
          have ih := hk _ _ _ rfl (fillEntry de dirPath dirCanon de.absPath).path (childCanon dirCanon de.name)
            (lvl + 1) (childCanon_long dirCanon de.name hc) (base_le_child dirCanon de.name rp.base hname hc hb)
            (by rw [hd, hlvl]) { res := r1, walk := { st.walk with visited := st.walk.visited ++ [de.ino] } } hgk hfk
          cases hf : foldLim p r1 (checksL p rp (eventsL rp (fillEntry de dirPath dirCanon de.absPath).path
              (childCanon dirCanon de.name) (lvl + 1) kids)) with
          | error a => simp only [ih.error hf]
          | ok rs' =>
            obtain ⟨w', heq, fs, hw, hfs⟩ := ih.ok hf
            exact ⟨w', fs, hva.trans hw, hfs, by simp only [heq]⟩
    · simp only [hmax, Bool.false_eq_true, if_false]
      have h0 : (eventsN rp dirPath dirCanon lvl n).tail = [] ∧ faultsN rp dirPath dirCanon lvl n = [] := by
        cases n <;> simp [eventsN, faultsN, hmax]
      rw [h0.1, h0.2, checksL_nil, foldLim]
      exact ⟨_, [], (WalkAfter.refl _).mono (by simp), fun _ => rfl, rfl⟩

theorem dfsForest_cons (p : Plan) (rp : RootParams) {n : Node} {ns : List Node} (hn : DfsNode p rp n)
    (ih : DfsForest p rp ns) : DfsForest p rp (n :: ns) := by
  intro dirPath dirCanon lvl hc hb hlvl st hg hfr
  simp only [inodesL] at hfr
  obtain ⟨hfn, hfs⟩ := hfr.append
  have hn := hn dirPath dirCanon lvl hc hb hlvl ns st hg.1 hfn
  simp only [eventsL, faultsL, inodesL, checksL_append]
  rw [foldLim_append]
  cases hf : foldLim p st.res (checksL p rp (eventsN rp dirPath dirCanon lvl n)) with
  | error a => rw [hf] at hn; exact hn
  | ok rs1 =>
    rw [hf] at hn
    obtain ⟨w1, f1, hw1, hf1, heq1⟩ := hn
    have ih := ih dirPath dirCanon lvl hc hb hlvl { res := rs1, walk := w1 } hg.2 (hfs _ hw1.sub)
    rw [heq1]
    exact ih.imp fun rs2 w2 h2 ⟨f2, hw2, hf2⟩ =>
      ⟨f1 ++ f2, hw1.trans hw2, fun hu => by rw [hf1 (foldLim_unreached h2 hu), hf2 hu]⟩

theorem dfs_list_any (p : Plan) (rp : RootParams) : ∀ ns : List Node, DfsForest p rp ns := by
  intro ns
  induction ns using forest_induct with
  | nil =>
    intro dirPath dirCanon lvl _ _ _ st _ _
    simp only [eventsL, checksL_nil, foldLim]
    exact ⟨st.walk, by rw [visitKidsD], [], WalkAfter.refl st.walk, fun _ => rfl⟩
  | leaf e z ns ih => exact dfsForest_cons p rp (dfsNode_of_kids p rp _ fun _ _ _ h => nomatch h) ih
  | dir e l kids ns ihk ih =>
    exact dfsForest_cons p rp (dfsNode_of_kids p rp _ fun _ _ _ h => by cases h; exact ihk) ih

theorem dfs_node_any (p : Plan) (rp : RootParams) (n : Node) : DfsNode p rp n :=
  dfsNode_of_kids p rp n fun _ _ kids _ => dfs_list_any p rp kids

theorem dfs_root_any (p : Plan) (rp : RootParams) (path canon : Str) (kids : List Node) (st : WSt)
    (hroot : 1 < canon.length) (hbase : rp.base = calcDepth canon) (hg : goodL kids)
    (hfr : Fresh st.walk.visited (inodesL kids)) :
    Follows (foldLim p st.res (checksL p rp (eventsL rp path canon 1 kids))) (visitDirD p rp path canon true kids st)
      fun rs' w' => ∃ fs, WalkAfter st.walk w' (inodesL kids) fs ∧
        (limitReached p rs' = false → fs = faultsL rp path canon 1 kids) := by
  have hd : calcDepth canon - rp.base + 1 = 1 := by omega
  rw [visitDirD]
  simp only [Bool.not_true, Bool.false_eq_true, if_false, hd]
  exact dfs_list_any p rp kids path canon 1 hroot (by omega) hd st hg hfr

/-- one node under any plan, remembering only which inode numbers can have been recorded -/
theorem dfs_node_lim (p : Plan) (rp : RootParams) (dirPath dirCanon : Str) (lvl : Nat)
    (hc : 1 < dirCanon.length) (hb : rp.base ≤ calcDepth dirCanon) (hlvl : calcDepth dirCanon - rp.base + 1 = lvl) :
    ∀ (n : Node) (rest : List Node) (st : WSt),
      goodN n → (inodesN n).Nodup → (∀ i ∈ inodesN n, i ∉ st.walk.visited) →
      (match foldLim p st.res (checksL p rp (eventsN rp dirPath dirCanon lvl n)) with
       | .error a => visitKidsD p rp dirPath dirCanon lvl st (n :: rest) = .error a
       | .ok rs' => ∃ w', WalkSub st.walk w' (inodesN n) ∧
           visitKidsD p rp dirPath dirCanon lvl st (n :: rest) =
             visitKidsD p rp dirPath dirCanon lvl { res := rs', walk := w' } rest) :=
  fun n rest st hg hnd hfresh =>
    match_imp (dfs_node_any p rp n dirPath dirCanon lvl hc hb hlvl rest st hg ⟨hnd, hfresh⟩)
      fun _ _ ⟨w', _, hw, _, heq⟩ => ⟨w', hw.sub, heq⟩

end WalkLim

namespace WalkL
open WalkLim

/-- **DFS exactness (one node)**: reporting a node and descending into it = `foldReport` over its events -/
theorem dfs_node (p : Plan) (rp : RootParams) (hl : NoLimit p) (dirPath dirCanon : Str) (lvl : Nat)
    (hc : 1 < dirCanon.length) (hb : rp.base ≤ calcDepth dirCanon) (hlvl : calcDepth dirCanon - rp.base + 1 = lvl) :
    ∀ (n : Node) (rest : List Node) (st : WSt),
      goodN n → (inodesN n).Nodup → (∀ i ∈ inodesN n, i ∉ st.walk.visited) →
      (∀ st2 : WSt, ∃ k, visitKidsD p rp dirPath dirCanon lvl st2 rest = k) →
      (match foldReport p rp st.res (eventsN rp dirPath dirCanon lvl n) with
       | .error a => visitKidsD p rp dirPath dirCanon lvl st (n :: rest) = .error a
       | .ok rs' => ∃ w', WalkAfter st.walk w' (inodesN n) (faultsN rp dirPath dirCanon lvl n) ∧
           visitKidsD p rp dirPath dirCanon lvl st (n :: rest) =
             visitKidsD p rp dirPath dirCanon lvl { res := rs', walk := w' } rest) := by
  intro n rest st hg hnd hfresh _
  rw [foldReport_eq_foldLim p rp hl]
  exact match_imp (dfs_node_any p rp n dirPath dirCanon lvl hc hb hlvl rest st hg ⟨hnd, hfresh⟩)
    fun rs' _ ⟨w', _, hw, hfs, heq⟩ => ⟨w', hfs (noLimit_false p hl rs') ▸ hw, heq⟩

end WalkL
end Fsel
