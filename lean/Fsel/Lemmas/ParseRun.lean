/-
  The sub-parsers as plain functions.  A `PR` carries two length proofs beside its outcome; what a parser computes
  is its outcome alone (`PR.out`), and each parser of the mutual block that the grammar theorems go through has one
  equation saying how its outcome is made of the outcomes of the parsers it calls (for `parseParen` and `leafP` one per
  form of the first token that is needed), each operator loop a `_step` and a `_stop` equation, in the order of the model.  `iterOut` does the same for the token loops of the clause parsers.  The last lemmas carry one operand up
  through all the loops above it, which is how a bracketed expression is read.
-/
import Fsel.Model.ParserTop

namespace Fsel

/-- outcome of a sub-parser: result and remaining tokens -/
def PR.out {b : Bool} {α : Type} {ts : List Lexem} (p : PR b α ts) : Except PErr α × List Lexem := (p.res, p.rest)

theorem PR.out_mk {b : Bool} {α : Type} {ts : List Lexem} (res : Except PErr α) (rest : List Lexem) (le) (progress) :
    (⟨res, rest, le, progress⟩ : PR b α ts).out = (res, rest) := rfl

/-- outcome of a token loop: result and remaining tokens (the `Rest` of `iterate` depends on the input, so two
    runs on different inputs can only be compared through this) -/
def iterOut {σ α : Type} (step : σ → (ts : List Lexem) → Step σ α ts) (s : σ) (ts : List Lexem) :
    Except PErr α × List Lexem := ((iterate step s ts).1, (iterate step s ts).2.1)

theorem iterate_more {σ α : Type} {step : σ → (ts : List Lexem) → Step σ α ts} {s s' : σ} {ts r : List Lexem}
    {h : r.length < ts.length} (hs : step s ts = .more s' r h) : iterOut step s ts = iterOut step s' r := by
  rw [iterOut, iterate, hs]
  rfl

theorem iterate_done {σ α : Type} {step : σ → (ts : List Lexem) → Step σ α ts} {s : σ} {ts : List Lexem}
    {res : Except PErr α} {r : Rest ts} (hs : step s ts = .done res r) : iterOut step s ts = (res, r.1) := by
  rw [iterOut, iterate, hs]

namespace ParseL

/-! ### outcomes and the form of the grammar theorems -/

theorem out_iff {b : Bool} {α : Type} {ts : List Lexem} {p : PR b α ts} {x : Except PErr α} {r : List Lexem} :
    p.out = (x, r) ↔ p.res = x ∧ p.rest = r := by
  simp [PR.out]

/-- the parser `run` reads `toks` as `val`, whatever follows that satisfies `Stop`.  It is spelled with `.res`/`.rest`
    and a variable `ts` with an equation (the type of `run ts` depends on `ts`) because that is how the grammar
    theorems `parse_T` … `parse_X` are stated: each of them is a `Reads` fact by unfolding, and `Reads.out` /
    `Reads.of_out` let their proofs and their users work with `.out` instead. -/
def Reads {b : Bool} {α : Type} (run : (ts : List Lexem) → PR b α ts) (toks : List Lexem) (Stop : List Lexem → Prop)
    (val : α) : Prop :=
  ∀ (r ts : List Lexem), Stop r → ts = toks ++ r → (run ts).res = .ok val ∧ (run ts).rest = r

theorem Reads.out {b : Bool} {α : Type} {run : (ts : List Lexem) → PR b α ts} {toks : List Lexem}
    {Stop : List Lexem → Prop} {val : α} (h : Reads run toks Stop val) {r : List Lexem} (hr : Stop r) :
    (run (toks ++ r)).out = (.ok val, r) :=
  out_iff.2 (h r _ hr rfl)

theorem Reads.of_out {b : Bool} {α : Type} {run : (ts : List Lexem) → PR b α ts} {toks : List Lexem}
    {Stop : List Lexem → Prop} {val : α} (h : ∀ r, Stop r → (run (toks ++ r)).out = (.ok val, r)) :
    Reads run toks Stop val := by
  intro r ts hr hts
  subst hts
  exact out_iff.1 (h r hr)

/-- … and the same for a statement without a condition on what follows (`parse_F`) -/
theorem reads_of_out {b : Bool} {α : Type} {run : (ts : List Lexem) → PR b α ts} {toks : List Lexem} {val : α}
    (h : ∀ r, (run (toks ++ r)).out = (.ok val, r)) :
    ∀ (r ts : List Lexem), ts = toks ++ r → (run ts).res = .ok val ∧ (run ts).rest = r :=
  fun r ts hts => Reads.of_out (Stop := fun _ => True) (fun r _ => h r) r ts trivial hts

/-! ### the operator classes and what ends each loop -/

def isMulOp (s : Str) (op : ArithOp) : Prop :=
  ArithOp.ofStr? s = some op ∧ (op = .Multiply ∨ op = .Divide ∨ op = .Modulo)
def isAddOp (s : Str) (op : ArithOp) : Prop :=
  ArithOp.ofStr? s = some op ∧ (op = .Add ∨ op = .Subtract)

theorem addOp_plus : isAddOp ['+'] .Add := ⟨by decide, Or.inl rfl⟩
theorem addOp_minus : isAddOp ['-'] .Subtract := ⟨by decide, Or.inr rfl⟩
theorem mulOp_star : isMulOp ['*'] .Multiply := ⟨by decide, Or.inl rfl⟩

theorem addOp_not_mul {s : Str} {op : ArithOp} (h : isAddOp s op) : ¬ ∃ op', isMulOp s op' := by
  rintro ⟨op', h1, h2⟩
  rw [h.1] at h1
  have : op = op' := by simpa using h1
  subst this
  rcases h.2 with h | h <;> rcases h2 with h' | h' | h' <;> rw [h] at h' <;> cases h'

/-- what follows a term: not a multiplicative operator -/
def StopMul : List Lexem → Prop
  | .arith s :: _ => ¬ ∃ op, isMulOp s op
  | _ => True

/-- what follows an expression: no arithmetic operator at all -/
def StopAdd : List Lexem → Prop
  | .arith s :: _ => ArithOp.ofStr? s = none
  | _ => True

theorem stopMul_of_stopAdd {r : List Lexem} (h : StopAdd r) : StopMul r := by
  cases r with
  | nil => trivial
  | cons x xs =>
    cases x <;> try trivial
    simp only [StopAdd] at h
    simp only [StopMul]
    rintro ⟨op, h1, _⟩
    rw [h] at h1; cases h1

/-- what may follow a condition: the end, a connective, a closing bracket, or the first token of what the clause
    parsers read next (`order`, `limit`, `into`; a comma or `desc` inside ORDER BY).  `condTail` ends a condition at any
    token but an operator; these are the tokens at which a caller goes on. -/
def _root_.Fsel.ParseC.StopCond : List Lexem → Prop
  | [] => True
  | .and_ :: _ | .or_ :: _ | .close :: _ | .cclose :: _ | .order :: _ | .limit :: _ | .into :: _ | .comma :: _ | .desc :: _ => True
  | _ => False

/-- what may follow a conjunction inside a disjunction: not AND -/
def _root_.Fsel.ParseC.StopAnd : List Lexem → Prop
  | .and_ :: _ => False
  | r => ParseC.StopCond r

def _root_.Fsel.ParseC.StopOr : List Lexem → Prop
  | .and_ :: _ | .or_ :: _ => False
  | r => ParseC.StopCond r

open ParseC

theorem stopCond_of_stopAnd {r : List Lexem} (h : StopAnd r) : StopCond r := by
  cases r with
  | nil => trivial
  | cons t rs => cases t <;> first | exact h | trivial

theorem stopAnd_of_stopOr {r : List Lexem} (h : StopOr r) : StopAnd r := by
  cases r with
  | nil => trivial
  | cons t rs => cases t <;> first | exact h | (simp only [StopOr] at h)

theorem stopAdd_of_stopCond {r : List Lexem} (h : StopCond r) : StopAdd r := by
  cases r with
  | nil => trivial
  | cons t rs => cases t <;> simp only [StopCond] at h <;> trivial

theorem stopOr_close (r : List Lexem) : StopOr (.close :: r) := by simp [StopOr, StopCond]
theorem stopOr_cclose (r : List Lexem) : StopOr (.cclose :: r) := by simp [StopOr, StopCond]
theorem stopOr_comma (r : List Lexem) : StopOr (.comma :: r) := by simp [StopOr, StopCond]
theorem stopOr_desc (r : List Lexem) : StopOr (.desc :: r) := by simp [StopOr, StopCond]

/-! ### the expression level: OR and AND -/

theorem parseExpr_out (bs : Bool) (ts : List Lexem) :
    (parseExpr bs ts).out = match (parseAnd bs ts).out with
      | (.error e, r) => (.error e, r)
      | (.ok left, r) => match (exprLoop bs none r).out with
        | (.error e, r2) => (.error e, r2)
        | (.ok none, r2) => (.ok left, r2)
        | (.ok (some right), r2) => (.ok (.logic left .Or right), r2) := by
  rw [parseExpr]
  rcases parseAnd bs ts with ⟨_ | _, r, hr, hp⟩
  · rfl
  · dsimp only [PR.out_mk]
    rcases exprLoop bs none r with ⟨_ | _ | _, r2, h2, hp2⟩ <;> rfl

theorem exprLoop_step (bs : Bool) (right : Option Expr) (r : List Lexem) :
    (exprLoop bs right (.or_ :: r)).out = match (parseAnd bs r).out with
      | (.error e, r2) => (.error e, r2)
      | (.ok e, r2) => (exprLoop bs (some (match right with | some rr => .logic rr .Or e | none => e)) r2).out := by
  rw [exprLoop]
  rcases parseAnd bs r with ⟨_ | _, r2, h2, hp⟩
  · rfl
  · cases right <;> rfl

theorem exprLoop_stop (bs : Bool) (acc : Option Expr) (ts : List Lexem) (h : StopOr ts) :
    (exprLoop bs acc ts).out = (.ok acc, ts) := by
  unfold exprLoop
  split
  · simp only [StopOr] at h
  · rfl

theorem parseAnd_out (bs : Bool) (ts : List Lexem) :
    (parseAnd bs ts).out = match (parseCond bs ts).out with
      | (.error e, r) => (.error e, r)
      | (.ok left, r) => match (andLoop bs none r).out with
        | (.error e, r2) => (.error e, r2)
        | (.ok none, r2) => (.ok left, r2)
        | (.ok (some right), r2) => (.ok (.logic left .And right), r2) := by
  rw [parseAnd]
  rcases parseCond bs ts with ⟨_ | _, r, hr, hp⟩
  · rfl
  · dsimp only [PR.out_mk]
    rcases andLoop bs none r with ⟨_ | _ | _, r2, h2, hp2⟩ <;> rfl

theorem andLoop_step (bs : Bool) (right : Option Expr) (r : List Lexem) :
    (andLoop bs right (.and_ :: r)).out = match (parseCond bs r).out with
      | (.error e, r2) => (.error e, r2)
      | (.ok e, r2) => (andLoop bs (some (match right with | some rr => .logic rr .And e | none => e)) r2).out := by
  rw [andLoop]
  rcases parseCond bs r with ⟨_ | _, r2, h2, hp⟩
  · rfl
  · cases right <;> rfl

theorem andLoop_stop (bs : Bool) (acc : Option Expr) (ts : List Lexem) (h : StopAnd ts) :
    (andLoop bs acc ts).out = (.ok acc, ts) := by
  unfold andLoop
  split
  · simp only [StopAnd] at h
  · rfl

/-! ### the condition level -/

/-- `parse_cond` after its left operand: `negate` from the prefix NOTs, `not` the infix NOT, `t3` what follows -/
def condTail (bs negate : Bool) (left : Expr) (not : Bool) (t3 : List Lexem) : Except PErr Expr × List Lexem :=
  let fin (e : Expr) : Except PErr Expr := .ok (if negate then (boolShorthand bs e).negate else boolShorthand bs e)
  match t3 with
  | .op s :: t4 =>
    if lowerStr s == ofS "between" then
      match (parseAddSub bs t4).out with
      | (.error e, r) => (.error e, r)
      | (.ok lb, .and_ :: t6) =>
        match (parseAddSub bs t6).out with
        | (.error e, r) => (.error e, r)
        | (.ok rb, t7) =>
          (fin (.logic (.cmp left (if not then .Lt else .Gte) lb) (if not then .Or else .And)
            (.cmp left (if not then .Gt else .Lte) rb)), t7)
      | (.ok _, []) => (.error (.msg "Error parsing BETWEEN operator"), [])
      | (.ok _, _ :: t6) => (.error (.msg "Error parsing BETWEEN operator"), t6)
    else
      match (parseAddSub bs t4).out with
      | (.error e, r) => (.error e, r)
      | (.ok right, t5) =>
        match Op.fromWithNot s not with
        | none => (.error (.msg "Unknown operator"), t5)
        | some op => (fin (.cmp left op right), t5)
  | _ => (fin left, t3)

theorem boolShorthand_cmp (bs : Bool) (l : Expr) (op : Op) (r : Expr) : boolShorthand bs (.cmp l op r) = .cmp l op r := by
  cases bs <;> rfl

theorem boolShorthand_logic (bs : Bool) (l : Expr) (op : LogicalOp) (r : Expr) :
    boolShorthand bs (.logic l op r) = .logic l op r := by
  cases bs <;> rfl

theorem parseCond_out (bs : Bool) (ts : List Lexem) :
    (parseCond bs ts).out = match (parseAddSub bs (skipNots ts).2.1).out with
      | (.error e, r) => (.error e, r)
      | (.ok left, t2) => condTail bs (skipNots ts).1 left (infixNot t2).1 (infixNot t2).2.1 := by
  -- turned round so that each `rfl` below is `Eq.refl` of the short side: at a leaf the kernel then
  -- evaluates the unfolded `parseCond` without type-checking it again
  symm
  rw [parseCond]
  rcases skipNots ts with ⟨negate, t1, h1⟩
  -- `-zeta`: the local `fin` and `bad` of `parseCond` stay folded instead of being copied into every arm
  dsimp -zeta only
  rcases parseAddSub bs t1 with ⟨_ | left, t2, h2, hp2⟩
  · rfl
  · dsimp -zeta only [PR.out_mk]
    rcases infixNot t2 with ⟨not, t3, h3⟩
    rcases t3 with _ | ⟨t, t4⟩
    · rfl
    · -- every token but an operator takes the last arm, in `parseCond` and in `condTail`
      cases t with
      | op s =>
        dsimp -zeta only [condTail]
        by_cases hb : (lowerStr s == ofS "between") = true
        · rw [if_pos hb, if_pos hb]
          rcases parseAddSub bs t4 with ⟨_ | lb, _ | ⟨t, t6⟩, h5, hp5⟩ <;> try rfl
          cases t with
          | and_ =>
            dsimp -zeta only [PR.out_mk]
            rcases parseAddSub bs t6 with ⟨_ | rb, t7, h7, hp7⟩ <;> rfl
          | _ => rfl
        · rw [if_neg hb, if_neg hb]
          rcases parseAddSub bs t4 with ⟨_ | right, t5, h5, hp5⟩
          · rfl
          · cases Op.fromWithNot s not <;> rfl
      | _ => rfl

theorem condTail_stop (bs n : Bool) (x : Expr) (r : List Lexem) (hr : StopCond r) :
    condTail bs n x (infixNot r).1 (infixNot r).2.1 =
      (.ok (if n then (boolShorthand bs x).negate else boolShorthand bs x), r) := by
  cases r with
  | nil => rfl
  | cons t rs => cases t <;> simp only [StopCond] at hr <;> rfl

theorem skipNots_id (ts : List Lexem) (h : ts.head? ≠ some .not_) : skipNots ts = (false, Rest.refl ts) := by
  cases ts with
  | nil => rfl
  | cons x xs =>
    cases x <;> first | rfl | (exfalso; exact h rfl)

/-! ### the arithmetic level -/

theorem parseAddSub_out (bs : Bool) (ts : List Lexem) :
    (parseAddSub bs ts).out = match (parseMulDiv bs ts).out with
      | (.error e, r) => (.error e, r)
      | (.ok left, r) => (addLoop bs left r).out := by
  unfold parseAddSub
  rcases parseMulDiv bs ts with ⟨_ | _, r, hr, hp⟩ <;> rfl

theorem addLoop_step (bs : Bool) (left : Expr) {s : Str} {op : ArithOp} (r : List Lexem)
    (h : isAddOp s op) :
    (addLoop bs left (.arith s :: r)).out = match (parseMulDiv bs r).out with
      | (.error e, r2) => (.error e, r2)
      | (.ok e, r2) => (addLoop bs (.arith left op e) r2).out := by
  obtain ⟨hop, hadd⟩ := h
  rw [addLoop, hop]
  rcases parseMulDiv bs r with ⟨_ | e, r2, h2, hp⟩ <;> rcases hadd with rfl | rfl <;> rfl

theorem addLoop_stop (bs : Bool) (left : Expr) (ts : List Lexem) (h : StopAdd ts) :
    (addLoop bs left ts).out = (.ok left, ts) := by
  unfold addLoop
  split
  · simp only [StopAdd] at h
    simp only [h]
    rfl
  · rfl

theorem parseMulDiv_out (bs : Bool) (ts : List Lexem) :
    (parseMulDiv bs ts).out = match (parseParen bs ts).out with
      | (.error e, r) => (.error e, r)
      | (.ok left, r) => (mulLoop bs left r).out := by
  unfold parseMulDiv
  rcases parseParen bs ts with ⟨_ | _, r, hr, hp⟩ <;> rfl

theorem mulLoop_step (bs : Bool) (left : Expr) {s : Str} {op : ArithOp} (r : List Lexem)
    (h : isMulOp s op) :
    (mulLoop bs left (.arith s :: r)).out = match (parseParen bs r).out with
      | (.error e, r2) => (.error e, r2)
      | (.ok e, r2) => (mulLoop bs (.arith left op e) r2).out := by
  obtain ⟨hop, hmul⟩ := h
  rw [mulLoop, hop]
  rcases parseParen bs r with ⟨_ | e, r2, h2, hp⟩ <;> rcases hmul with rfl | rfl | rfl <;> rfl

theorem mulLoop_stop (bs : Bool) (left : Expr) (ts : List Lexem) (h : StopMul ts) :
    (mulLoop bs left ts).out = (.ok left, ts) := by
  unfold mulLoop
  split
  · split
    · rename_i hop; exact absurd ⟨_, hop, Or.inl rfl⟩ h
    · rename_i hop; exact absurd ⟨_, hop, Or.inr (Or.inl rfl)⟩ h
    · rename_i hop; exact absurd ⟨_, hop, Or.inr (Or.inr rfl)⟩ h
    · rfl
  · rfl

/-! ### brackets, leaves, functions -/

theorem parseParen_open_out (bs : Bool) (r : List Lexem) :
    (parseParen bs (.open_ :: r)).out = match (parseExpr bs r).out with
      | (res, .close :: r3) => (res, r3)
      | (_, []) => (.error (.msg "Unmatched parenthesis"), [])
      | (_, _ :: r3) => (.error (.msg "Unmatched parenthesis"), r3) := by
  rw [parseParen]
  rcases parseExpr bs r with ⟨res, _ | ⟨t, r2⟩, h2, hp⟩
  · rfl
  · cases t <;> rfl

theorem parseParen_copen_out (bs : Bool) (r : List Lexem) :
    (parseParen bs (.copen :: r)).out = match (parseExpr bs r).out with
      | (res, .cclose :: r3) => (res, r3)
      | (_, []) => (.error (.msg "Unmatched parenthesis"), [])
      | (_, _ :: r3) => (.error (.msg "Unmatched parenthesis"), r3) := by
  rw [parseParen]
  rcases parseExpr bs r with ⟨res, _ | ⟨t, r2⟩, h2, hp⟩
  · rfl
  · cases t <;> rfl

/-- a factor that starts with neither a bracket nor a sign is a leaf, as a `PR`; behind a sign only the outcome is the
    leaf's, because `PR.lift` re-proves the lengths -/
theorem parseParen_raw (bs : Bool) (s : Str) (r : List Lexem) :
    parseParen bs (.raw s :: r) = leafP bs false (.raw s :: r) := by
  unfold parseParen parseFuncScalar
  rfl

theorem parseParen_str (bs : Bool) (s : Str) (r : List Lexem) :
    parseParen bs (.str s :: r) = leafP bs false (.str s :: r) := by
  unfold parseParen parseFuncScalar
  rfl

theorem parseParen_minus_out (bs : Bool) (r : List Lexem) :
    (parseParen bs (.arith ['-'] :: r)).out = (leafP bs true r).out := by
  unfold parseParen parseFuncScalar
  rfl

theorem leafP_raw_out (bs minus : Bool) (s : Str) (r : List Lexem) :
    (leafP bs minus (.raw s :: r)).out = match Field.ofStr? s with
      | some f => (.ok (.field minus f), r)
      | none => match Function.ofStr? s with
        | some fn => match (parseFunction bs fn r).out with
          | (.error e, r2) => (.error e, r2)
          | (.ok e, r2) => (.ok (e.setMinus minus), r2)
        | none => (.ok (.val minus s), r) := by
  rw [leafP]
  cases Field.ofStr? s with
  | some f => rfl
  | none =>
    cases Function.ofStr? s with
    | none => rfl
    | some fn =>
      dsimp only
      rcases parseFunction bs fn r with ⟨_ | e, r2, h2, hp⟩ <;> rfl

theorem leafP_str_out (bs minus : Bool) (s : Str) (r : List Lexem) :
    (leafP bs minus (.str s :: r)).out = (.ok (.val minus s), r) := by
  rw [leafP]
  rfl

/-- the last arm of `fnHeader` -/
theorem fnHeader_ret (fn : Function) (t : Lexem) (r : List Lexem) (ht : t ≠ .open_ ∧ t ≠ .copen)
    (h : fn.isBoolean = true ∨ fn.takesNoArguments = true) :
    fnHeader fn (t :: r) = .ret (.ok (.func0 false fn)) ⟨t :: r, Nat.le_refl _⟩ := by
  rw [fnHeader.eq_4 fn t r (fun h => ht.1 h) (fun h => ht.2 h)]
  rcases h with h | h <;> simp [h]

theorem parseFunction_out (bs : Bool) (fn : Function) (ts : List Lexem) :
    (parseFunction bs fn ts).out = match fnHeader fn ts with
      | .ret res r => (res, r.1)
      | .args curly t1 => match (parseExpr bs t1.1).out with
        | (.error (.msg _), r) => (.ok (.func0 false fn), r)
        | (.error e, r) => (.error e, r)
        | (.ok arg, t2) => match (argsLoop bs curly [] t2).out with
          | (.error e, r) => (.error e, r)
          | (.ok args, r) => (.ok (.func false fn arg args), r) := by
  rw [parseFunction]
  rcases fnHeader fn ts with ⟨curly, t1, h1⟩ | ⟨res, r⟩
  · dsimp only
    rcases parseExpr bs t1 with ⟨(_ | _) | arg, t2, h2, hp⟩
    · rfl
    · rfl
    · dsimp only [PR.out_mk]
      rcases argsLoop bs curly [] t2 with ⟨_ | args, r, hr, hp'⟩ <;> rfl
  · rfl

theorem argsLoop_close (bs : Bool) (acc : List Expr) (r : List Lexem) :
    (argsLoop bs false acc (.close :: r)).out = (.ok acc, r) := by
  rw [argsLoop]
  rfl

/-! ### carrying one operand up through the loops -/

theorem parseAddSub_factor (bs : Bool) {ts r : List Lexem} {x : Expr}
    (h : (parseParen bs ts).out = (.ok x, r)) (hr : StopAdd r) : (parseAddSub bs ts).out = (.ok x, r) := by
  rw [parseAddSub_out, parseMulDiv_out, h]
  simp only [mulLoop_stop bs x r (stopMul_of_stopAdd hr), addLoop_stop bs x r hr]

theorem parseExpr_single (bs : Bool) {ts r : List Lexem} {x : Expr}
    (h : (parseCond bs ts).out = (.ok x, r)) (hr : StopOr r) : (parseExpr bs ts).out = (.ok x, r) := by
  rw [parseExpr_out, parseAnd_out, h]
  simp only [andLoop_stop bs none r (stopAnd_of_stopOr hr), exprLoop_stop bs none r hr]

/-- the result passes through `boolShorthand` once: this is how a bracketed arithmetic expression is read -/
theorem parseExpr_operand (bs : Bool) {ts r : List Lexem} {x : Expr} (hn : ts.head? ≠ some .not_)
    (h : (parseAddSub bs ts).out = (.ok x, r)) (hr : StopOr r) :
    (parseExpr bs ts).out = (.ok (boolShorthand bs x), r) := by
  refine parseExpr_single bs ?_ hr
  rw [parseCond_out, skipNots_id ts hn]
  simp only [Rest.refl, h]
  exact condTail_stop bs false x r (stopCond_of_stopAnd (stopAnd_of_stopOr hr))

end ParseL
end Fsel
