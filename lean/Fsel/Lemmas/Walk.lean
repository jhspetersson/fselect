/-
  What the walkers are measured against: the events and faults of a tree, the traversal state before and after a walk
  (`WalkAfter`, from a state in which the tree's inode numbers are `Fresh`), and `check_file` folded over the events
  (`foldReport`).  The fold up to the streamed LIMIT and what it means to follow it are in `WalkLim.lean`.
-/
import Fsel.Model.Walk
import Fsel.Lemmas.Text

namespace Fsel
namespace WalkL

/-! ### the tree -/

-- inode numbers the walker may record: directories and symlinks
mutual
def inodesN : Node → List Nat
  | .leaf e _ => if e.kind == 'l' then [e.ino] else []
  | .dir e _ kids => e.ino :: inodesL kids
def inodesL : List Node → List Nat
  | [] => []
  | n :: ns => inodesN n ++ inodesL ns
end

-- every name in the forest is a single path component and directory records are directories (`okToVisit` enters
-- whatever is no link, so the walker theorems need a directory's record to say `'d'`)
mutual
def goodN : Node → Prop
  | .leaf e _ => ¬ e.name.contains '/'
  | .dir e _ kids => ¬ e.name.contains '/' ∧ e.kind = 'd' ∧ goodL kids
def goodL : List Node → Prop
  | [] => True
  | n :: ns => goodN n ∧ goodL ns
end

/-- the recursor of the nested type, asking of a single entry that it may be put in front of any forest that
    satisfies `P` -/
theorem forest_induct {P : List Node → Prop} (nil : P [])
    (leaf : ∀ e z ns, P ns → P (.leaf e z :: ns))
    (dir : ∀ e l kids ns, P kids → P ns → P (.dir e l kids :: ns)) : ∀ ns, P ns :=
  Node.rec_1 (motive_1 := fun n => ∀ ns, P ns → P (n :: ns)) (motive_2 := P)
    (fun e z ns h => leaf e z ns h) (fun e l kids hk ns h => dir e l kids ns hk h) nil (fun _ ns hn hns => hn ns hns)

/-! ### events and faults -/

-- the entries the walker reports, in order: pre-order, pruned below `maxdepth`
mutual
def eventsN (rp : RootParams) (dirPath dirCanon : Str) (lvl : Nat) : Node → List (Node × Entry × Nat)
  | .leaf le z => [(.leaf le z, fillEntry le dirPath dirCanon le.absPath, lvl)]
  | .dir de l kids =>
    (.dir de l kids, fillEntry de dirPath dirCanon de.absPath, lvl) ::
      (if (rp.maxDepth == 0 || lvl < rp.maxDepth) && l then
        eventsL rp (fillEntry de dirPath dirCanon de.absPath).path (childCanon dirCanon de.name) (lvl + 1) kids
       else [])
def eventsL (rp : RootParams) (dirPath dirCanon : Str) (lvl : Nat) : List Node → List (Node × Entry × Nat)
  | [] => []
  | n :: ns => eventsN rp dirPath dirCanon lvl n ++ eventsL rp dirPath dirCanon lvl ns
end

-- the directories whose listing fails, in the order the walker meets them (paths as spelled)
mutual
def faultsN (rp : RootParams) (dirPath dirCanon : Str) (lvl : Nat) : Node → List Str
  | .leaf _ _ => []
  | .dir de l kids =>
    if rp.maxDepth == 0 || lvl < rp.maxDepth then
      (if l then faultsL rp (fillEntry de dirPath dirCanon de.absPath).path (childCanon dirCanon de.name) (lvl + 1) kids
       else [(fillEntry de dirPath dirCanon de.absPath).path])
    else []
def faultsL (rp : RootParams) (dirPath dirCanon : Str) (lvl : Nat) : List Node → List Str
  | [] => []
  | n :: ns => faultsN rp dirPath dirCanon lvl n ++ faultsL rp dirPath dirCanon lvl ns
end

theorem eventsL_single (rp : RootParams) (dp dc : Str) (lvl : Nat) (n : Node) :
    eventsL rp dp dc lvl [n] = eventsN rp dp dc lvl n := List.append_nil _

theorem faultsL_single (rp : RootParams) (dp dc : Str) (lvl : Nat) (n : Node) :
    faultsL rp dp dc lvl [n] = faultsN rp dp dc lvl n := List.append_nil _

/-- the maxdepth gate of the descent (`lvl < m` is `lvl + 1 ≤ m`: the next level is within `maxdepth`) -/
theorem maxGate (rp : RootParams) (lvl : Nat) :
    (rp.maxDepth == 0 || decide (lvl < rp.maxDepth)) = true ↔ rp.maxDepth = 0 ∨ lvl < rp.maxDepth := by
  simp

/-! ### depth arithmetic -/

-- `1 < canon.length` is how "the directory is not `/`" is carried: a child's canonical path inherits it
-- (`childCanon_long`), and `/` is the special case of both `calcDepth` and `childCanon`
theorem long_ne_slash {s : Str} (h : 1 < s.length) : (s == ['/']) = false :=
  beq_eq_false_iff_ne.mpr fun e => by rw [e] at h; exact absurd h (by decide)

theorem calcDepth_long (s : Str) (h : 1 < s.length) : calcDepth s = count '/' s + 1 := by
  simp only [calcDepth, long_ne_slash h, Bool.false_eq_true, if_false]

theorem childCanon_long (canon name : Str) (hc : 1 < canon.length) : 1 < (childCanon canon name).length := by
  unfold childCanon
  split <;> simp <;> omega

theorem calcDepth_child (canon name : Str) (hn : ¬ name.contains '/') (hc : 1 < canon.length) :
    calcDepth (childCanon canon name) = calcDepth canon + 1 := by
  rw [calcDepth_long _ (childCanon_long canon name hc), calcDepth_long _ hc]
  simp only [childCanon, long_ne_slash hc, Bool.false_eq_true, if_false, TextL.count_append,
    TextL.count_zero_of_not_contains '/' name hn]
  rfl

theorem depth_child (canon name : Str) (base : Nat) (hn : ¬ name.contains '/') (hc : 1 < canon.length)
    (hb : base ≤ calcDepth canon) :
    calcDepth (childCanon canon name) - base + 1 = (calcDepth canon - base + 1) + 1 := by
  rw [calcDepth_child canon name hn hc]
  omega

theorem base_le_child (canon name : Str) (base : Nat) (hn : ¬ name.contains '/') (hc : 1 < canon.length)
    (hb : base ≤ calcDepth canon) :
    base ≤ calcDepth (childCanon canon name) := by
  rw [calcDepth_child canon name hn hc]
  omega

theorem depth_child_of_root (name : Str) (hn : ¬ name.contains '/') (hne : name ≠ []) :
    calcDepth (childCanon ['/'] name) = calcDepth ['/'] + 1 := by
  have hl : 1 < (['/'] ++ name).length := by
    cases name <;> simp_all
  show calcDepth (['/'] ++ name) = 2
  rw [calcDepth_long _ hl, TextL.count_append, TextL.count_zero_of_not_contains '/' name hn]
  rfl

/-! ### the traversal state -/

/-- what the traversal part of the state looks like afterwards: inode numbers from `ins` recorded, `faults` appended
    to the errors, the queue as it was (depth-first the queue is not used).  `sup` and `queue` are part of what the
    statements of C01 assert of a depth-first walk; the proofs here pass them along and consume `sub` and `errs` only. -/
structure WalkAfter (w w' : WalkSt) (ins : List Nat) (faults : List Str) : Prop where
  sub : ∀ i, i ∈ w'.visited → i ∈ w.visited ∨ i ∈ ins
  sup : ∀ i, i ∈ w.visited → i ∈ w'.visited
  errs : w'.errCount = w.errCount + faults.length ∧ w'.errPaths = w.errPaths ++ faults
  queue : w'.queue = w.queue

theorem WalkAfter.refl (w : WalkSt) : WalkAfter w w [] [] :=
  ⟨fun i h => Or.inl h, fun i h => h, ⟨by simp, by simp⟩, rfl⟩

theorem WalkAfter.trans {w w1 w2 : WalkSt} {i1 i2 : List Nat} {f1 f2 : List Str}
    (h1 : WalkAfter w w1 i1 f1) (h2 : WalkAfter w1 w2 i2 f2) : WalkAfter w w2 (i1 ++ i2) (f1 ++ f2) where
  sub i hi := (h2.sub i hi).elim (fun h => (h1.sub i h).imp_right (List.mem_append_left _))
    fun h => .inr (List.mem_append_right _ h)
  sup i hi := h2.sup i (h1.sup i hi)
  errs := ⟨by rw [h2.errs.1, h1.errs.1, List.length_append, Nat.add_assoc],
    by rw [h2.errs.2, h1.errs.2, List.append_assoc]⟩
  queue := h2.queue.trans h1.queue

theorem WalkAfter.mono {w w' : WalkSt} {ins ins' : List Nat} {fs : List Str} (h : WalkAfter w w' ins fs)
    (hs : ∀ i ∈ ins, i ∈ ins') : WalkAfter w w' ins' fs :=
  ⟨fun i hi => (h.sub i hi).imp_right (hs i), h.sup, h.errs, h.queue⟩

theorem walkAfter_visit (w : WalkSt) (i : Nat) : WalkAfter w { w with visited := w.visited ++ [i] } [i] [] :=
  ⟨fun _ hi => List.mem_append.mp hi, fun _ hi => List.mem_append_left _ hi, ⟨rfl, (List.append_nil _).symm⟩, rfl⟩

theorem walkAfter_okToVisit (w : WalkSt) (e : Entry) : WalkAfter w (okToVisit w e).2 [e.ino] [] := by
  unfold okToVisit
  split
  · exact (WalkAfter.refl w).mono (by simp)
  · exact walkAfter_visit w e.ino

theorem walkAfter_fault (w : WalkSt) (path : Str) :
    WalkAfter w { w with errCount := w.errCount + 1, errPaths := w.errPaths ++ [path] } [] [path] :=
  ⟨fun _ h => Or.inl h, fun _ h => h, ⟨rfl, rfl⟩, rfl⟩

theorem okToVisit_fresh (w : WalkSt) (e : Entry) (h : e.ino ∉ w.visited) :
    okToVisit w e = (e.kind != 'l', { w with visited := w.visited ++ [e.ino] }) := by
  have : w.visited.contains e.ino = false := by simpa using h
  simp only [okToVisit, this, Bool.false_eq_true, if_false]

theorem markVisited_fresh (w : WalkSt) (i : Nat) (h : i ∉ w.visited) :
    markVisited w i = { w with visited := w.visited ++ [i] } := by
  have : w.visited.contains i = false := by simpa using h
  simp only [markVisited, this, Bool.false_eq_true, if_false]

/-- inode numbers the walker has yet to meet -/
def Fresh (vis ins : List Nat) : Prop := ins.Nodup ∧ ∀ i ∈ ins, i ∉ vis

theorem Fresh.perm {vis a b : List Nat} (h : Fresh vis a) (hp : a.Perm b) : Fresh vis b :=
  ⟨hp.nodup_iff.mp h.1, fun i hi => h.2 i (hp.mem_iff.mpr hi)⟩

/-- after a walk that recorded only numbers of `a`, the numbers of `b` are still to be met -/
theorem Fresh.append {vis a b : List Nat} (h : Fresh vis (a ++ b)) :
    Fresh vis a ∧ ∀ vis', (∀ i ∈ vis', i ∈ vis ∨ i ∈ a) → Fresh vis' b := by
  obtain ⟨ha, hb, hab⟩ := List.nodup_append.mp h.1
  refine ⟨⟨ha, fun i hi => h.2 i (List.mem_append_left _ hi)⟩, fun vis' hs => ⟨hb, fun i hi hv => ?_⟩⟩
  rcases hs i hv with hv | hv
  · exact h.2 i (List.mem_append_right _ hi) hv
  · exact hab i hv i hi rfl

theorem Fresh.move {vis a b : List Nat} (h : Fresh vis (a ++ b)) : Fresh vis a ∧ Fresh (vis ++ a) b :=
  ⟨h.append.1, h.append.2 _ fun _ hi => List.mem_append.mp hi⟩

theorem Fresh.cons {vis ins : List Nat} {i : Nat} (h : Fresh vis (i :: ins)) : i ∉ vis ∧ Fresh (vis ++ [i]) ins :=
  ⟨h.2 i (by simp), (Fresh.move (a := [i]) h).2⟩

/-! ### the report step and the fold over events -/

theorem minGate (rp : RootParams) (lvl : Nat) :
    (rp.minDepth == 0 || decide (lvl ≥ rp.minDepth)) = true ↔ rp.minDepth = 0 ∨ rp.minDepth ≤ lvl := by
  simp

theorem reportEntry_above (p : Plan) (rp : RootParams) (lvl : Nat) (n : Node) (e : Entry) (rs : ResSt)
    (hmin : rp.minDepth ≠ 0) (hlt : lvl < rp.minDepth) : reportEntry p rp lvl n e rs = .ok rs := by
  have : ¬ (rp.minDepth == 0 || decide (lvl ≥ rp.minDepth)) = true := fun hg =>
    ((minGate rp lvl).mp hg).elim hmin (by omega)
  simp only [reportEntry, this, Bool.false_eq_true, if_false]

theorem reportEntry_inside (p : Plan) (rp : RootParams) (lvl : Nat) (n : Node) (e : Entry) (rs : ResSt)
    (h : rp.minDepth = 0 ∨ rp.minDepth ≤ lvl) :
    reportEntry p rp lvl n e rs =
      match checkFile p rs e with
      | .error a => .error a
      | .ok s =>
        match n with
        | .leaf _ (some members) =>
          if rp.archives && hasExtension e.path p.cfg.zipExts then checkMembers p s e members else .ok s
        | _ => .ok s := by
  simp only [reportEntry, (minGate rp lvl).mpr h, if_true]
  rfl

/-- no streamed LIMIT is active -/
def NoLimit (p : Plan) : Prop := p.q.isBuffered = true ∨ p.q.limit = 0

theorem noLimit_false (p : Plan) (h : NoLimit p) (rs : ResSt) : limitReached p rs = false := by
  unfold limitReached
  rcases h with h | h <;> simp [h]

/-- `check_file` (and the archive member loop) applied to a list of events -/
def foldReport (p : Plan) (rp : RootParams) : ResSt → List (Node × Entry × Nat) → Except Abort ResSt
  | rs, [] => .ok rs
  | rs, (n, e, lvl) :: evs =>
    match reportEntry p rp lvl n e rs with
    | .error a => .error a
    | .ok rs' => foldReport p rp rs' evs

end WalkL

/-! ### what reporting sees of an event -/

namespace C17

/-- what `check_file` and the archive loop can see of an event -/
abbrev Key := Option (List ArcInfo) × Entry × Nat

def zipOf : Node → Option (List ArcInfo)
  | .leaf _ z => z
  | .dir _ _ _ => none

def key (ev : Node × Entry × Nat) : Key := (zipOf ev.1, ev.2.1, ev.2.2)

end C17

end Fsel
