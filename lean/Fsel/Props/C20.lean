/-
  C20  Ignore-file options remove exactly the ignored entries.

  Model: `Ignore.lean`.  An entry that the rules ignore is skipped whole by `visit_dir` (no row, no descent, no
  inode recorded), so walking with ignore rules IS walking the pruned tree, and `Main.searchRoots` is defined that
  way.
  Idea: what is proved here is what pruning does to the events (`markIL`: the events of the whole tree with the flag
  "ignored, or below an ignored directory"; the pruned tree reports exactly the unflagged ones, one induction over the
  forest); to apply the walker theorems (C01, C17) to a pruned
  tree one needs `goodL` and distinct inode numbers of the pruned tree as hypotheses (neither is shown to be
  inherited from the whole tree), and `searchRoots` is not unfolded for roots with ignore options.
  The theorems hold of every tree, every rule set, every depth window.
  Not theorems: that the compiled patterns mean what the tools mean (glob → regex conversion against
  Mercurial's and Docker's matchers, libgit2 against git): decided on every run by the oracles (`git
  check-ignore`; reference matchers for the generated pattern subset), together with the search for the
  ignore file in the ancestors of the root.
-/
import Fsel.Model.Ignore
import Fsel.Lemmas.Walk
import Fsel.Lemmas.List

namespace Fsel.C20
open Fsel WalkL

-- `C17.Key`, `C17.key`, `C17.zipOf` (what reporting sees of an event) are defined in `Lemmas/Walk.lean` under that namespace
abbrev Key := C17.Key

-- pre-order (pruned below maxdepth) of the whole tree; the flag says "ignored, or below an ignored directory"
mutual
def markIN (ig : IgnoreSet) (rp : RootParams) (dp dc : Str) (lvl : Nat) (hidden : Bool) : Node → List (Key × Bool)
  | .leaf le z => [((z, fillEntry le dp dc le.absPath, lvl), hidden || ig.ignored (fillEntry le dp dc le.absPath))]
  | .dir de l kids =>
    ((none, fillEntry de dp dc de.absPath, lvl), hidden || ig.ignored (fillEntry de dp dc de.absPath)) ::
      (if (rp.maxDepth == 0 || lvl < rp.maxDepth) && l then
        markIL ig rp (joinPath dp de.name) (childCanon dc de.name) (lvl + 1)
          (hidden || ig.ignored (fillEntry de dp dc de.absPath)) kids
       else [])
def markIL (ig : IgnoreSet) (rp : RootParams) (dp dc : Str) (lvl : Nat) (hidden : Bool) : List Node → List (Key × Bool)
  | [] => []
  | n :: ns => markIN ig rp dp dc lvl hidden n ++ markIL ig rp dp dc lvl hidden ns
end

theorem fill_path (e : Entry) (dp dc : Str) (a : Option Str) : (fillEntry e dp dc a).path = joinPath dp e.name := rfl

theorem markIL_single (ig : IgnoreSet) (rp : RootParams) (dp dc : Str) (lvl : Nat) (h : Bool) (n : Node) :
    markIL ig rp dp dc lvl h [n] = markIN ig rp dp dc lvl h n := List.append_nil _

theorem markI_all_L (ig : IgnoreSet) (rp : RootParams) (dp dc : Str) (lvl : Nat) (h : Bool) (ns : List Node) :
    (markIL ig rp dp dc lvl h ns).map (·.1) = (eventsL rp dp dc lvl ns).map C17.key := by
  induction ns using forest_induct generalizing dp dc lvl h with
  | nil => rfl
  | leaf le z ns ih => simp [markIL, markIN, eventsL, eventsN, C17.key, C17.zipOf, ih]
  | dir de l kids ns ihk ih =>
    simp only [markIL, markIN, eventsL, eventsN, List.map_append, List.map_cons, C17.key, C17.zipOf, fill_path, ih]
    congr 2
    split
    · exact ihk ..
    · rfl

theorem markI_all_N (ig : IgnoreSet) (rp : RootParams) (dp dc : Str) (lvl : Nat) (h : Bool) :
    ∀ n : Node, (markIN ig rp dp dc lvl h n).map (·.1) = (eventsN rp dp dc lvl n).map C17.key := fun n => by
  simpa only [markIL_single, eventsL_single] using markI_all_L ig rp dp dc lvl h [n]

theorem markI_visible_L (ig : IgnoreSet) (rp : RootParams) (dp dc : Str) (lvl : Nat) (h : Bool) (ns : List Node) :
    ((markIL ig rp dp dc lvl h ns).filter (fun x => !x.2)).map (·.1) =
      if h then [] else (eventsL rp dp dc lvl (pruneL ig dp dc ns)).map C17.key := by
  induction ns using forest_induct generalizing dp dc lvl h with
  | nil => cases h <;> rfl
  | leaf le z ns ih =>
    cases h with
    | true => simp [markIL, markIN, ih]
    | false =>
      simp only [markIL, markIN, pruneL, pruneN, Bool.false_or, List.cons_append, List.nil_append, List.filter_cons]
      cases ig.ignored (fillEntry le dp dc le.absPath) with
      | true => exact ih ..
      | false => simp [eventsL, eventsN, C17.key, C17.zipOf, ih]
  | dir de l kids ns ihk ih =>
    cases h with
    | true =>
      simp only [markIL, markIN, List.cons_append, List.filter_cons, List.filter_append, List.map_append, Bool.true_or,
        Bool.not_true, Bool.false_eq_true, if_false, if_true, ih, List.append_nil]
      split
      · exact ihk ..
      · rfl
    | false =>
      simp only [markIL, markIN, pruneL, pruneN, List.cons_append, List.filter_cons, List.filter_append, Bool.false_or]
      cases ig.ignored (fillEntry de dp dc de.absPath) with
      | true =>
        -- an ignored directory: its own row and everything below it are hidden
        simp only [Bool.not_true, Bool.false_eq_true, if_false, if_true, List.map_append, ih]
        split
        · rw [ihk]; rfl
        · rfl
      | false =>
        simp only [Bool.not_false, Bool.false_eq_true, if_false, if_true, List.map_cons, List.map_append, eventsL, eventsN,
          C17.key, C17.zipOf, fill_path, ih]
        congr 2
        split
        · exact ihk ..
        · rfl

theorem markI_hidden_N (ig : IgnoreSet) (rp : RootParams) (dp dc : Str) (lvl : Nat) :
    ∀ n : Node, (markIN ig rp dp dc lvl true n).filter (fun x => !x.2) = [] := fun n => by
  simpa only [markIL_single, if_true, List.map_eq_nil_iff] using markI_visible_L ig rp dp dc lvl true [n]

/-- **the ignore rules remove exactly the ignored entries and what lies below ignored directories**: the entries
    reported for the pruned tree are those reported for the whole tree minus exactly the flagged ones — "every other
    entry is returned exactly as without the option" -/
theorem pruned_events_are_the_visible_events (ig : IgnoreSet) (rp : RootParams) (path canon : Str) (kids : List Node) :
    (eventsL rp path canon 1 (pruneL ig path canon kids)).map C17.key =
      ((markIL ig rp path canon 1 false kids).filter (fun x => !x.2)).map (·.1) ∧
    (eventsL rp path canon 1 kids).map C17.key = (markIL ig rp path canon 1 false kids).map (·.1) :=
  ⟨(markI_visible_L ig rp path canon 1 false kids).symm, (markI_all_L ig rp path canon 1 false kids).symm⟩

theorem ignored_no_rules (e : Entry) : IgnoreSet.ignored {} e = false := rfl

theorem prune_none_L (dp dc : Str) (ns : List Node) : pruneL {} dp dc ns = ns := by
  induction ns using forest_induct generalizing dp dc with
  | nil => rfl
  | leaf le z ns ih => simp [pruneL, pruneN, ignored_no_rules, ih]
  | dir de l kids ns ihk ih => simp [pruneL, pruneN, ignored_no_rules, ih, ihk]

theorem prune_none_N (dp dc : Str) : ∀ n : Node, pruneN {} dp dc n = some n
  | .leaf le z => by simp [pruneN, ignored_no_rules]
  | .dir de l kids => by simp [pruneN, ignored_no_rules, prune_none_L]

/-- with no rule set in force nothing is removed -/
theorem no_rules_no_change (path canon : Str) (kids : List Node) : pruneL {} path canon kids = kids :=
  prune_none_L path canon kids

/-- an `.hgignore` ignores what any of its patterns matches -/
theorem hg_any_pattern (fs : List Re) (p : Str) : hgVerdict fs p = fs.any (fun r => r.isMatch p) := rfl

/-- the last pattern that matches decides (excluded unless that pattern is an exception); no match: not ignored (D53 fix) -/
theorem docker_last_match_wins (fs : List (Re × Bool)) (path : Str) :
    let p := replaceAll (path.map fun c => if c == '\\' then '/' else c) ['/', '/'] ['/']
    dockerVerdict fs path =
      match (fs.filter fun f => f.1.isMatch p).getLast? with
      | some f => !f.2
      | none => false := by
  intro p
  rw [dockerVerdict, ListL.foldl_last (fun f : Re × Bool => f.1.isMatch p) (fun f => !f.2) fs false]
  cases (fs.filter fun f => f.1.isMatch p).getLast? <;> rfl

/-- option on → rules apply, `no…` → they do not, neither → the configuration default (absent: off) -/
theorem option_table (c : Option Bool) (b : Bool) :
    ignoreApplies (some true) c = true ∧ ignoreApplies (some false) c = false ∧
    ignoreApplies none (some b) = b ∧ ignoreApplies none none = false := by
  simp [ignoreApplies]

/-- the verdict depends on the entry only through its own location — the canonical path of its directory
    and its name — and git's own verdict: not on the spelling of the root, and (D78 fix) not on what a
    symbolic link points to -/
theorem verdict_from_own_location (ig : IgnoreSet) (e e' : Entry) (d : Str)
    (h1 : e.absDir = some d) (h2 : e'.absDir = some d) (hn : e.name = e'.name) (hg : e.gitIgnored = e'.gitIgnored) :
    ig.ignored e = ig.ignored e' := by
  simp [IgnoreSet.ignored, h1, h2, hn, hg]

/-- a symbolic link is judged like any other entry of that name in that directory: the target (the link's
    canonical path `absPath`, its kind, its link text) plays no part -/
theorem link_judged_by_its_own_name (ig : IgnoreSet) (dirPath dirCanon : Str) (e : Entry) (t : Option Str) (k : Char) (lt : Option Str) :
    ig.ignored (fillEntry { e with absPath := t, kind := k, linkTarget := lt } dirPath dirCanon t) =
    ig.ignored (fillEntry e dirPath dirCanon e.absPath) := by
  simp [IgnoreSet.ignored, fillEntry]

/-- a concrete check: a rule set that ignores one entry and keeps another -/
example :
    let f : Entry := { name := ofS "f", path := [], absPath := none, absDir := none, kind := 'f', size := 1, mode := 0,
                        uid := 0, gid := 0, nlink := 1, ino := 11, dev := 0, blocks := 0, mtime := 0 }
    let ig : IgnoreSet := { git := true }
    pruneL ig ['.'] ['/', 'r'] [Node.leaf { f with gitIgnored := true } none, Node.leaf f none] = [Node.leaf f none] := by
  simp [pruneL, pruneN, IgnoreSet.ignored, fillEntry]

end Fsel.C20
