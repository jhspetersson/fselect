/-
  What the round trips of the output formats (C09) have in common.  A reference reader is a loop with fuel: stop
  at what ends the list, else read one item and go on; a writer concatenates written items (`many_roundtrip`) or
  joins them with commas (`read_joined`).  Each round trip is one of these two inductions, given what the reader
  does on one written item.
-/
import Fsel.Lemmas.Text

namespace Fsel.Roundtrip
open Fsel TextL

/-- a reader that steps over one written item (`hmore`) and makes `nil` of `tail` with fuel `k` or more reads the
    written items back one by one, consing each onto `nil` -/
theorem many_roundtrip {α R : Type} {read : Nat → Str → Option R} {enc : α → Str} {cons : α → R → R} {nil : R}
    {tail : Str} {k : Nat} (hstop : ∀ n, read (n + k) tail = some nil) (xs : List α)
    (hmore : ∀ x ∈ xs, ∀ n t, read (n + 1) (enc x ++ t) = (read n t).map (cons x))
    {n : Nat} (hn : xs.length + k ≤ n) :
    read n (xs.flatMap enc ++ tail) = some (xs.foldr cons nil) := by
  induction xs generalizing n with
  | nil => rw [← Nat.sub_add_cancel (Nat.le_of_add_left_le hn)]; exact hstop _
  | cons x xs ih =>
    obtain ⟨n, rfl⟩ : ∃ m, n = m + 1 := ⟨n - 1, by simp at hn; omega⟩
    rw [List.flatMap_cons, List.append_assoc, hmore x (List.mem_cons_self ..),
      ih (fun z hz => hmore z (List.mem_cons_of_mem _ hz)) (by simp at hn ⊢; omega)]
    rfl

/-- the `cons` of the readers that return (items, rest): what `many_roundtrip` yields for them -/
theorem foldr_cons_fst {α γ : Type} (xs : List α) (r : γ) :
    xs.foldr (fun x p => (x :: p.1, p.2)) ([], r) = (xs, r) := by
  induction xs with
  | nil => rfl
  | cons x xs ih => rw [List.foldr_cons, ih]

/-- for the readers that stop at a delimiter `q` the item reader rejects: what it did read does not start with `q` -/
theorem head_ne {rd : Str → Option (Char × Str)} {q x : Char} {xs : Str} {p : Char × Str}
    (hq : rd (q :: xs) = none) (h : rd (x :: xs) = some p) : (x == q) = false := by
  cases hx : x == q with
  | false => rfl
  | true => rw [eq_of_beq hx, hq] at h; cases h

/-- a reader `R` that steps over one written item followed by a comma, and stops at an item followed by `close`,
    reads a comma-joined list back -/
theorem read_joined {α β : Type} {R : Nat → Str → Option (List β × Str)} {enc : α → Str} {val : α → β} {close : Char}
    (xs : List α) (hne : xs ≠ [])
    (hsep : ∀ x ∈ xs, ∀ n r, R (n + 1) (enc x ++ ',' :: r) = (R n r).map (fun p => (val x :: p.1, p.2)))
    (hclose : ∀ x ∈ xs, ∀ n r, R (n + 1) (enc x ++ close :: r) = some ([val x], r))
    (rest : Str) {n : Nat} (hn : xs.length ≤ n) :
    R n (joinWith [','] (xs.map enc) ++ close :: rest) = some (xs.map val, rest) := by
  induction xs generalizing n with
  | nil => exact absurd rfl hne
  | cons x xs ih =>
    cases n with
    | zero => exact absurd hn (Nat.not_succ_le_zero _)
    | succ n =>
      cases xs with
      | nil => exact hclose x (List.mem_cons_self ..) n rest
      | cons y ys =>
        rw [List.map_cons, List.map_cons, joinWith_cons_cons, List.append_assoc, List.append_assoc, List.singleton_append,
          hsep x (List.mem_cons_self ..), ← List.map_cons,
          ih (List.cons_ne_nil _ _) (fun z hz => hsep z (List.mem_cons_of_mem _ hz))
            (fun z hz => hclose z (List.mem_cons_of_mem _ hz)) (Nat.le_of_succ_le_succ hn)]
        rfl

end Fsel.Roundtrip
