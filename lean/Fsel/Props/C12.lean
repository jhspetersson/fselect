/-
  C12  Glob, LIKE, exact and regex matching agree with their textbook definitions.

  Model: `globToPattern` / `likeToPattern` (pattern text, after the D32/D33 fix every non-wildcard
  character is escaped), the regex fragment (`Rx.lean`), `compareValues` on text with the shared cache.
  Idea: the pattern text that `convert_glob_to_pattern` / `convert_like_to_pattern` produce parses (in the model's
  regex parser, `Lemmas/GlobParse`) to the anchored atom chain, and matching that chain is the textbook match
  (`Lemmas/Glob`); on text every operator is one cached pattern test or ignores the cache.  The theorems hold of every
  pattern, subject and cache content.
  Not theorems: the regex crate itself is external: the composed behaviour is validated against it in-process on every run;
  user regexes (`=~`) are compared on the modelled fragment only.
-/
import Fsel.Lemmas.Glob
import Fsel.Lemmas.GlobParse
import Fsel.Lemmas.Text
import Fsel.Lemmas.Compare

namespace Fsel.C12
open Fsel GlobL CompareL

def globAtoms (p : Str) : List Atom := p.map fun c => if c == '*' then .many else if c == '?' then .one else .lit c
def likeAtoms (p : Str) : List Atom := p.map fun c => if c == '%' then .many else if c == '_' then .one else .lit c

/-! ### pattern text, its parse and the textbook matcher -/

/-- glob matching is the textbook definition: the anchored, case-folding regex built from the pattern's atoms matches
    exactly when the whole subject matches with `*` for any run of characters (newlines included), `?` for exactly
    one, every other character for itself -/
theorem glob_textbook (p s : Str) : (anchored (globAtoms p)).isMatch s = atomsMatch (globAtoms p) s :=
  anchored_isMatch _ _

/-- LIKE matching is the textbook definition, with `%` and `_` -/
theorem like_textbook (p s : Str) : (anchored (likeAtoms p)).isMatch s = atomsMatch (likeAtoms p) s :=
  anchored_isMatch _ _

/-- both converters map the pattern character by character: two wildcards, everything else escaped -/
theorem pattern_text (many one : Char) (p : Str) :
    p.flatMap (fun c => if c == many then ['.', '*'] else if c == one then ['.'] else regexEscape c) =
      GlobP.atomsText (p.map fun c => if c == many then .many else if c == one then .one else .lit c) := by
  rw [GlobP.atomsText, List.flatMap_map]
  congr 1; funext c
  split
  · rfl
  · split <;> rfl

theorem glob_text (p : Str) : globToPattern p = ofS "^(?is)" ++ GlobP.atomsText (globAtoms p) ++ ['$'] := by
  rw [globToPattern, pattern_text]; rfl

theorem like_text (p : Str) : likeToPattern p = ofS "^(?is)" ++ GlobP.atomsText (likeAtoms p) ++ ['$'] := by
  rw [likeToPattern, pattern_text]; rfl

/-- the pattern text of a glob parses to the anchored atom chain — for every pattern -/
theorem glob_pattern_parses (p : Str) : rxParse (globToPattern p) = .ok (anchored (globAtoms p)) := by
  rw [glob_text]; exact GlobP.rxParse_anchored _

/-- the same for LIKE -/
theorem like_pattern_parses (p : Str) : rxParse (likeToPattern p) = .ok (anchored (likeAtoms p)) := by
  rw [like_text]; exact GlobP.rxParse_anchored _

/-- end to end: compile the glob's pattern text, match: the textbook whole-string match -/
theorem glob_end_to_end (p s : Str) :
    (match rxParse (globToPattern p) with | .ok re => some (re.isMatch s) | _ => none) = some (atomsMatch (globAtoms p) s) := by
  rw [glob_pattern_parses]; simp [glob_textbook]

/-- the same for LIKE -/
theorem like_end_to_end (p s : Str) :
    (match rxParse (likeToPattern p) with | .ok re => some (re.isMatch s) | _ => none) = some (atomsMatch (likeAtoms p) s) := by
  rw [like_pattern_parses]; simp [like_textbook]

/-- a concrete check, the D32 witness: `a+b.*` matches `a+b.txt`, not `aab.txt` -/
example : atomsMatch (globAtoms (ofS "a+b.*")) (ofS "a+b.txt") = true ∧
          atomsMatch (globAtoms (ofS "a+b.*")) (ofS "aab.txt") = false := by
  constructor <;> simp [globAtoms, ofS, atomsMatch, foldChar]

/-- a concrete check: `_` is exactly one character (D33: LIKE treated `?`, its regex counterpart, as optional) -/
example : atomsMatch (likeAtoms (ofS "a_")) (ofS "ab") = true ∧ atomsMatch (likeAtoms (ofS "a_")) (ofS "a") = false := by
  constructor <;> simp [likeAtoms, ofS, atomsMatch, foldChar]

/-! ### the text operators and their negations -/

/-- `===` / `!==` compare literal text, wildcard characters included -/
theorem eeq_literal (today : Int) (c : RxCache) (subj lit : Str) :
    compareValues today c (.ofString subj) .Eeq (.ofString lit) = .ok (.val (lit == subj), c) ∧
    compareValues today c (.ofString subj) .Ene (.ofString lit) = .ok (.val (lit != subj), c) :=
  CompareL.text_eeq today c subj lit

def cnot : CmpRes → CmpRes
  | .val b => .val (!b)
  | .uncertain => .uncertain

/-- each negative text operator is the exact complement of its positive counterpart, for every
    subject, pattern and cache content -/
theorem negatives_complement (today : Int) (c : RxCache) (subj lit : Str) :
    let fv := Variant.ofString subj
    let v := Variant.ofString lit
    (compareValues today c fv .Ne v = (compareValues today c fv .Eq v).map fun r => (cnot r.1, r.2)) ∧
    (compareValues today c fv .NotLike v = (compareValues today c fv .Like v).map fun r => (cnot r.1, r.2)) ∧
    (compareValues today c fv .NotRx v = (compareValues today c fv .Rx v).map fun r => (cnot r.1, r.2)) ∧
    (compareValues today c fv .Ene v = (compareValues today c fv .Eeq v).map fun r => (cnot r.1, r.2)) := by
  have t := fun op h => text_negate cnot (fun _ => rfl) today c (.ofString subj) (.ofString lit) op rfl h
  exact ⟨t .Eq ⟨Op.noConfusion, Op.noConfusion⟩, t .Like ⟨Op.noConfusion, Op.noConfusion⟩,
    t .Rx ⟨Op.noConfusion, Op.noConfusion⟩, t .Eeq ⟨Op.noConfusion, Op.noConfusion⟩⟩

/-! ### cache transparency -/

/-- the pattern a cache key stands for (keys carry the operator family since the D34 fix) -/
def keyPattern (k : Str) : Str :=
  if startsWith k (ofS "glob:") then globToPattern (k.drop 5)
  else if startsWith k (ofS "like:") then likeToPattern (k.drop 5)
  else if startsWith k (ofS "rx:") then k.drop 3
  else k

/-- every cached entry is the compiled pattern of its key: what the Rust cache holds by construction -/
def CacheOK (c : RxCache) : Prop := ∀ k p, lookup k c = some p → p = keyPattern k

/-- a run starts with the empty cache -/
theorem cacheOK_nil : CacheOK [] := by
  intro k p h; simp [lookup] at h

theorem CacheOK.append {c d : RxCache} (hc : CacheOK c) (hd : CacheOK d) : CacheOK (c ++ d) := by
  intro k p h
  rw [lookup_append] at h
  cases hl : lookup k c with
  | some q => rw [hl] at h; exact hc k p (hl.trans h)
  | none => rw [hl] at h; exact hd k p h

theorem CacheOK.single {k p : Str} (h : keyPattern k = p) : CacheOK [(k, p)] := by
  intro k' p' hl
  simp only [lookup] at hl
  split at hl
  · next e => cases hl; rw [← h, eq_of_beq e]
  · cases hl

/-- one pattern test under a consistent cache: the verdict of the empty cache, and the cache stays consistent -/
theorem rxTest_transparent (c : RxCache) (key pat subj : Str) (oi : EM Bool) (hok : CacheOK c) (hk : keyPattern key = pat) :
    (rxTest c key pat subj oi).map (·.1) = (rxTest [] key pat subj oi).map (·.1) ∧
    ∀ b c', rxTest c key pat subj oi = .ok (b, c') → CacheOK c' := by
  have huse : (lookup key c).getD pat = pat := by
    cases h : lookup key c with
    | none => rfl
    | some p => exact (hok key p h).trans hk
  have hnew : CacheOK (if (lookup key c).isSome then c else c ++ [(key, pat)]) := by
    split
    · exact hok
    · exact hok.append (.single hk)
  simp only [rxTest, huse, show (lookup key ([] : RxCache)).getD pat = pat from rfl]
  cases rxParse pat with
  | ok re => exact ⟨rfl, fun b c' h => by cases h; exact hnew⟩
  | invalid => cases oi with
    | ok v => exact ⟨rfl, fun b c' h => by cases h; exact hok⟩
    | error e => exact ⟨rfl, fun b c' h => nomatch h⟩
  | unsupported => exact ⟨rfl, fun b c' h => nomatch h⟩

theorem keyPattern_glob (v : Str) : keyPattern (ofS "glob:" ++ v) = globToPattern v := by
  simp [keyPattern, startsWith, ofS, List.isPrefixOf]

theorem keyPattern_like (v : Str) : keyPattern (ofS "like:" ++ v) = likeToPattern v := by
  simp [keyPattern, startsWith, ofS, List.isPrefixOf]

theorem keyPattern_rx (v : Str) : keyPattern (ofS "rx:" ++ v) = v := by
  simp [keyPattern, startsWith, ofS, List.isPrefixOf]

/-- what `compareValues` does with the cache on text: each operator is either one cached pattern test
    under a key that stands for its pattern, or a verdict that never looks at the cache -/
theorem compareValues_text (today : Int) (subj lit : Str) (op : Op) :
    (∃ key pat oi neg, keyPattern key = pat ∧ ∀ c,
        compareValues today c (.ofString subj) op (.ofString lit) = wrapRx neg (rxTest c key pat subj oi)) ∨
    (∃ b, ∀ c, compareValues today c (.ofString subj) op (.ofString lit) = .ok (.val b, c)) := by
  cases op
  case Eq | Ne =>
    by_cases hg : isGlob lit = true
    · exact .inl ⟨ofS "glob:" ++ lit, _, _, _, keyPattern_glob lit, fun c => by
        simp only [compareValues, Variant.ofString, hg, if_true]; rfl⟩
    · exact .inr ⟨_, fun c => by simp only [compareValues, Variant.ofString, hg]; rfl⟩
  case Like | NotLike => exact .inl ⟨ofS "like:" ++ lit, _, _, _, keyPattern_like lit, fun _ => rfl⟩
  case Rx | NotRx => exact .inl ⟨ofS "rx:" ++ lit, _, _, _, keyPattern_rx lit, fun _ => rfl⟩
  all_goals exact .inr ⟨_, fun _ => rfl⟩

/-- the regex cache is semantically transparent: under `CacheOK` a text comparison gives the verdict it
    gives with an empty cache, and leaves a cache that is `CacheOK` again -/
theorem cache_transparent (today : Int) (c : RxCache) (subj lit : Str) (op : Op) (hok : CacheOK c) :
    (compareValues today c (.ofString subj) op (.ofString lit)).map (fun r => r.1) =
      (compareValues today [] (.ofString subj) op (.ofString lit)).map (fun r => r.1) ∧
    ∀ r c', compareValues today c (.ofString subj) op (.ofString lit) = .ok (r, c') → CacheOK c' := by
  rcases compareValues_text today subj lit op with ⟨key, pat, oi, neg, hk, h⟩ | ⟨b, h⟩
  · obtain ⟨h1, h2⟩ := rxTest_transparent c key pat subj oi hok hk
    rw [h c, h []]
    generalize rxTest c key pat subj oi = x at h1 h2
    generalize rxTest [] key pat subj oi = y at h1
    obtain _ | ⟨b, c1⟩ := x <;> obtain _ | ⟨b', c2⟩ := y <;> cases h1
    · exact ⟨rfl, fun r c' h => nomatch h⟩
    · exact ⟨rfl, fun r c' h => by cases h; exact h2 _ _ rfl⟩
  · rw [h c, h []]; exact ⟨rfl, fun r c' e => by cases e; exact hok⟩

end Fsel.C12
