/-
  The sort order of buffered rows (`Criteria`) is a total preorder — the BTreeMap model of TopN is only
  meaningful under this, so it is proved, not assumed.  Each key kind is a total preorder, and `Criteria::cmp` is
  their lexicographic product (`lex_total`, `lex_trans` in `Lemmas/Order`).
-/
import Fsel.Lemmas.TopN
import Fsel.Lemmas.Text

namespace Fsel
namespace CriteriaL
open TopNL

theorem intLe_preorder {K : Type} (f : K → Int) : TotalPreorder (fun a b => decide (f a ≤ f b)) :=
  ⟨fun a => by simp, fun a b c h1 h2 => by simp only [decide_eq_true_eq] at *; omega,
   fun a b => by simp only [decide_eq_true_eq]; omega⟩

theorem rankLe_step (a b : Int × Rat) :
    rankLe a b = (decide (a.1 ≤ b.1) && (!decide (b.1 ≤ a.1) || decide (a.2 ≤ b.2))) := by
  rw [rankLe]
  rcases Int.lt_trichotomy a.1 b.1 with h | h | h
  · simp [h, Int.le_of_lt h, Int.not_le.mpr h]
  · simp [h]
  · simp [Int.not_lt.mpr (Int.le_of_lt h), Int.ne_of_gt h, Int.not_le.mpr h]

theorem rankLe_preorder : TotalPreorder rankLe := by
  have P := intLe_preorder (K := Int × Rat) Prod.fst
  refine ⟨fun a => by simp [rankLe], fun a b c h1 h2 => ?_, fun a b => ?_⟩
  · simp only [rankLe_step, lexStep_iff, decide_eq_true_eq] at h1 h2 ⊢
    exact lex_trans (le := fun x y : Int × Rat => x.1 ≤ y.1) (fun _ _ _ => Int.le_trans) a b c Rat.le_trans h1 h2
  · rw [rankLe_step, rankLe_step]
    exact lex_total P.total a b (by simpa using Rat.le_total)

theorem keyLe_preorder (today : Int) (k : KeyKind) : TotalPreorder (keyLe today k) := by
  cases k with
  | numeric => exact ⟨fun a => rankLe_preorder.refl _, fun a b c => rankLe_preorder.trans _ _ _, fun a b => rankLe_preorder.total _ _⟩
  | datetime => exact intLe_preorder (dtRank today)
  | text => exact ⟨strLe_refl, strLe_trans, strLe_total⟩

/-- `≤` of one sort key in its direction -/
def dirLe (today : Int) (k : KeyKind) (d : Bool) (x y : Str) : Bool := if d then keyLe today k x y else keyLe today k y x

theorem dirLe_preorder (today : Int) (k : KeyKind) (d : Bool) : TotalPreorder (dirLe today k d) := by
  cases d
  · exact (keyLe_preorder today k).flip
  · exact keyLe_preorder today k

/-- one step of `Criteria::cmp`: the first key decides unless it ties, then the remaining keys do -/
theorem criteriaLeL_step (today : Int) (ks : List KeyKind) (ds : List Bool) (a b : Str) (as bs : List Str) :
    criteriaLeL today ks ds (a :: as) (b :: bs) =
      (dirLe today (ks.headD .text) (ds.headD true) a b &&
        (!dirLe today (ks.headD .text) (ds.headD true) b a || criteriaLeL today ks.tail ds.tail as bs)) := by
  simp only [criteriaLeL, dirLe]
  generalize ks.headD .text = k, ds.headD true = d, criteriaLeL today ks.tail ds.tail as bs = r
  cases d <;> simp only [if_true, if_false, Bool.false_eq_true] <;>
    cases keyLe today k a b <;> cases keyLe today k b a <;> rfl

theorem criteriaLeL_refl (today : Int) : ∀ (ks : List KeyKind) (ds : List Bool) (a : List Str),
    criteriaLeL today ks ds a a = true
  | _, _, [] => by simp [criteriaLeL]
  | ks, ds, a :: as => by
    simp [criteriaLeL_step, (dirLe_preorder today _ _).refl a, criteriaLeL_refl today ks.tail ds.tail as]

theorem criteriaLeL_total (today : Int) : ∀ (ks : List KeyKind) (ds : List Bool) (a b : List Str),
    criteriaLeL today ks ds a b = true ∨ criteriaLeL today ks ds b a = true
  | _, _, [], _ => Or.inl (by simp [criteriaLeL])
  | _, _, _ :: _, [] => Or.inr (by simp [criteriaLeL])
  | ks, ds, a :: as, b :: bs => by
    rw [criteriaLeL_step, criteriaLeL_step]
    exact lex_total (dirLe_preorder today _ _).total a b (criteriaLeL_total today ks.tail ds.tail as bs)

theorem criteriaLeL_trans (today : Int) : ∀ (ks : List KeyKind) (ds : List Bool) (a b c : List Str),
    criteriaLeL today ks ds a b = true → criteriaLeL today ks ds b c = true → criteriaLeL today ks ds a c = true
  | _, _, [], _, _, _, _ => by simp [criteriaLeL]
  | _, _, _ :: _, [], _, h, _ => by simp [criteriaLeL] at h
  | _, _, _ :: _, _ :: _, [], _, h => by simp [criteriaLeL] at h
  | ks, ds, a :: as, b :: bs, c :: cs, h1, h2 => by
    rw [criteriaLeL_step, lexStep_iff] at h1 h2 ⊢
    exact lex_trans (dirLe_preorder today _ _).trans a b c (criteriaLeL_trans today ks.tail ds.tail as bs cs) h1 h2

/-- the order used by the result buffer is a total preorder, for every key list and direction vector -/
theorem criteria_total_preorder (today : Int) (kinds : List KeyKind) (asc : List Bool) :
    TotalPreorder (criteriaLe today kinds asc) :=
  ⟨fun a => criteriaLeL_refl today kinds asc a.values,
   fun a b c => criteriaLeL_trans today kinds asc a.values b.values c.values,
   fun a b => criteriaLeL_total today kinds asc a.values b.values⟩

/-- keys that stand in front of both key lists alike (with their directions and values) can be ignored when two
    comparisons are to be shown equal: each either decides both, or ties in both -/
theorem criteriaLeL_append_congr (today : Int) {K' K'' : List KeyKind} {D' D'' : List Bool} {A' B' A'' B'' : List Str}
    (h : criteriaLeL today K' D' A' B' = criteriaLeL today K'' D'' A'' B'')
    (K : List KeyKind) (D : List Bool) (A B : List Str)
    (h1 : K.length = D.length) (h2 : K.length = A.length) (h3 : K.length = B.length) :
    criteriaLeL today (K ++ K') (D ++ D') (A ++ A') (B ++ B') = criteriaLeL today (K ++ K'') (D ++ D'') (A ++ A'') (B ++ B'') := by
  induction K generalizing D A B with
  | nil =>
    rw [List.eq_nil_of_length_eq_zero h1.symm, List.eq_nil_of_length_eq_zero h2.symm,
      List.eq_nil_of_length_eq_zero h3.symm]
    exact h
  | cons k K ih =>
    obtain ⟨d, D, rfl⟩ := List.exists_cons_of_length_eq_add_one h1.symm
    obtain ⟨a, A, rfl⟩ := List.exists_cons_of_length_eq_add_one h2.symm
    obtain ⟨b, B, rfl⟩ := List.exists_cons_of_length_eq_add_one h3.symm
    simp only [List.cons_append, criteriaLeL_step, List.headD_cons, List.tail_cons]
    rw [ih D A B (Nat.succ.inj h1) (Nat.succ.inj h2) (Nat.succ.inj h3)]

end CriteriaL
end Fsel
