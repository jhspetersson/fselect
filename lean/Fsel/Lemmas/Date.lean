/-
  Seconds, clock fields and day numbers (`secsOf`, `formatDatetime`'s divisions, `intervalOfParts`): a time is a
  day number and a second of day, a second of day is hour, minute and second, each pair a two-digit number in its
  base; and what a matched literal denotes, in one equation.
-/
import Fsel.Model.Date
import Fsel.Lemmas.Text

namespace Fsel
namespace DateL
open TextL

theorem secsOf_le {y : Int} {mo d h mi s h' mi' s' : Nat} (hh : h ≤ h') (hm : mi ≤ mi') (hs : s ≤ s') :
    secsOf y mo d h mi s ≤ secsOf y mo d h' mi' s' :=
  Int.add_le_add_left (Int.ofNat_le.2
    (Nat.add_le_add (Nat.add_le_add (Nat.mul_le_mul_right _ hh) (Nat.mul_le_mul_right _ hm)) hs)) _

/-- stated with the difference `k` and an equation between the seconds of day, so that for concrete clock fields the
    caller discharges it by `rfl` or `omega` -/
theorem secsOf_eq_add {y : Int} {mo d : Nat} (h mi s h' mi' s' k : Nat)
    (hk : h' * 3600 + mi' * 60 + s' = h * 3600 + mi * 60 + s + k) :
    secsOf y mo d h' mi' s' = secsOf y mo d h mi s + k := by
  unfold secsOf; rw [hk]; exact (Int.add_assoc _ (Int.ofNat (h * 3600 + mi * 60 + s)) k).symm

/-! A missing clock field `o` ranges over `[o.getD 0, o.getD top]`, a present one over itself; everything about
`intervalOfParts` follows from the one equation `intervalOfParts_eq`. -/

/-- the two guards of `intervalOfParts` (valid date; clock fields in range) as one condition -/
theorem guards_ite {α : Type} (v : Bool) (h m s : Nat) (e r : α) :
    (if !v then e else if h ≥ 24 || m ≥ 60 || s ≥ 60 then e else r) =
      if v = true ∧ h < 24 ∧ m < 60 ∧ s < 60 then r else e := by
  cases v <;> simp [← Nat.not_le, ← not_or, or_assoc]

theorem intervalOfParts_eq (y mo d : Nat) (h mi se : Option Nat) :
    intervalOfParts y mo d h mi se =
      if validCivil y mo d = true ∧ h.getD 0 < 24 ∧ mi.getD 0 < 60 ∧ se.getD 0 < 60 then
        .ok (secsOf y mo d (h.getD 0) (mi.getD 0) (se.getD 0)) (secsOf y mo d (h.getD 23) (mi.getD 59) (se.getD 59))
      else .err := by
  -- in each of the eight cases this is `guards_ite` up to reduction of the matches and `getD`
  cases h <;> cases mi <;> cases se <;> exact guards_ite ..

theorem getD_zero_le (o : Option Nat) (top : Nat) : o.getD 0 ≤ o.getD top := by
  cases o <;> simp

theorem clock_split (h mi s : Nat) (hm : mi < 60) (hs : s < 60) :
    (h * 3600 + mi * 60 + s) / 3600 = h ∧ (h * 3600 + mi * 60 + s) / 60 % 60 = mi ∧ (h * 3600 + mi * 60 + s) % 60 = s := by
  have e : h * 3600 + mi * 60 + s = (h * 60 + mi) * 60 + s := by omega
  rw [e, show 3600 = 60 * 60 from rfl, ← Nat.div_div_eq_div_mul, mul_add_div_of_lt _ hs, Nat.mul_add_mod_of_lt hs,
    mul_add_div_of_lt _ hm, Nat.mul_add_mod_of_lt hm]
  exact ⟨rfl, rfl, rfl⟩

theorem clock_join (n : Nat) : n / 3600 * 3600 + n / 60 % 60 * 60 + n % 60 = n := by
  rw [show 3600 = 60 * 60 from rfl, ← Nat.div_div_eq_div_mul, ← Nat.mul_assoc, ← Nat.add_mul, Nat.div_add_mod', Nat.div_add_mod']

theorem day_split (D : Int) (n : Nat) (hn : n < 86400) :
    (D * 86400 + n) / 86400 = D ∧ ((D * 86400 + n) % 86400).toNat = n := by
  have h0 : (0 : Int) ≤ n := Int.natCast_nonneg n
  have h1 : (n : Int) < 86400 := Int.ofNat_lt.2 hn
  rw [Int.add_comm, Int.add_mul_ediv_right _ _ (by decide), Int.add_mul_emod_self_right, Int.ediv_eq_zero_of_lt h0 h1,
    Int.emod_eq_of_lt h0 h1]
  exact ⟨Int.zero_add _, Int.toNat_natCast n⟩

theorem day_join (t : Int) : t / 86400 * 86400 + ((t % 86400).toNat : Int) = t := by
  rw [Int.toNat_of_nonneg (Int.emod_nonneg t (by decide)), Int.ediv_mul_add_emod]

theorem secsOf_split (y : Int) (mo d : Nat) {h mi s : Nat} (hh : h < 24) (hm : mi < 60) (hs : s < 60) :
    secsOf y mo d h mi s / 86400 = daysFromCivil y mo d ∧
    (secsOf y mo d h mi s % 86400).toNat = h * 3600 + mi * 60 + s :=
  day_split _ _ (by omega)

end DateL
end Fsel
