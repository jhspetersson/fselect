/-
  C01  Traversal is exact: every entry in the depth window, once, nothing else.

  Model: `Walk.lean` (`visit_dir`/`check_file`, roots searched without `symlinks`): one root depth-first, one root
  breadth-first (the default), several plain roots one after the other; the depth arithmetic directly below `/`.
  Idea: every walker theorem here is the any-plan theorem of `Lemmas/WalkD`, `WalkLimB` or `WalkRoot` read, for a plan
  without a streamed LIMIT, through `foldReport_eq_foldLim`; what the events are (window, count, order) is proved of
  the specification lists.  The theorems hold of every finite tree of any shape, depth, names and entry kinds and of
  every mindepth/maxdepth, under explicit hypotheses: names are single path components, directory/symlink inode
  numbers are pairwise distinct and not seen before (an example below meets these three), the root's canonical path
  is longer than "/" and `base` is its depth.
  Not theorems: overlapping roots and roots with options are decided by the correspondence (byte-exact against the
  model, which takes the `readdir` order from the snapshot) and by the os.walk oracle.
-/
import Fsel.Lemmas.WalkRoot

namespace Fsel.C01
open Fsel WalkL WalkB WalkLim WalkRoot

/-- a root searched depth-first with no streamed LIMIT: the result state is exactly `check_file` (plus the archive member
    loop) folded over the events (`eventsL`: the entries of the tree in pre-order, pruned below `maxdepth`); the
    traversal state only gains inode numbers of the tree; exactly the directories whose listing fails are recorded
    as errors (`faultsL`, see C17) -/
theorem dfs_root_exact (p : Plan) (rp : RootParams) (hl : NoLimit p) (path canon : Str) (kids : List Node) (st : WSt)
    (hroot : 1 < canon.length) (hbase : rp.base = calcDepth canon)
    (hg : goodL kids) (hnd : (inodesL kids).Nodup) (hfresh : ∀ i ∈ inodesL kids, i ∉ st.walk.visited) :
    match foldReport p rp st.res (eventsL rp path canon 1 kids) with
    | .error a => visitDirD p rp path canon true kids st = .error a
    | .ok rs' => ∃ w', WalkAfter st.walk w' (inodesL kids) (faultsL rp path canon 1 kids) ∧
        visitDirD p rp path canon true kids st = .ok { res := rs', walk := w' } := by
  rw [foldReport_eq_foldLim p rp hl]
  exact match_imp (dfs_root_any p rp path canon kids st hroot hbase hg ⟨hnd, hfresh⟩)
    fun rs' _ ⟨w', heq, _, hw, hfs⟩ => ⟨w', hfs (noLimit_false p hl rs') ▸ hw, heq⟩

-- full pre-order with nesting levels (no pruning); the contents of a directory that cannot be listed are
-- not part of what can be seen (C17 states what happens there)
mutual
def allN (dirPath dirCanon : Str) (lvl : Nat) : Node → List (Node × Entry × Nat)
  | .leaf le z => [(.leaf le z, fillEntry le dirPath dirCanon le.absPath, lvl)]
  | .dir de l kids =>
    (.dir de l kids, fillEntry de dirPath dirCanon de.absPath, lvl) ::
      (if l then allL (fillEntry de dirPath dirCanon de.absPath).path (childCanon dirCanon de.name) (lvl + 1) kids else [])
def allL (dirPath dirCanon : Str) (lvl : Nat) : List Node → List (Node × Entry × Nat)
  | [] => []
  | n :: ns => allN dirPath dirCanon lvl n ++ allL dirPath dirCanon lvl ns
end

/-- the level of an event is within `maxdepth` (0 = unbounded) -/
def inMax (rp : RootParams) (ev : Node × Entry × Nat) : Bool := rp.maxDepth == 0 || decide (ev.2.2 ≤ rp.maxDepth)

theorem all_levels_ge_L (dp dc : Str) (lvl : Nat) (ns : List Node) : ∀ ev ∈ allL dp dc lvl ns, lvl ≤ ev.2.2 := by
  induction ns using forest_induct generalizing dp dc lvl with
  | nil => intro ev h; simp [allL] at h
  | leaf le z ns ih =>
    intro ev h
    simp only [allL, allN, List.cons_append, List.nil_append, List.mem_cons] at h
    rcases h with rfl | h
    · exact Nat.le_refl _
    · exact ih _ _ _ ev h
  | dir de l kids ns ihk ih =>
    intro ev h
    simp only [allL, allN, List.cons_append, List.mem_cons, List.mem_append] at h
    rcases h with rfl | h | h
    · exact Nat.le_refl _
    · cases l with
      | false => simp at h
      | true => exact Nat.le_of_succ_le (ihk _ _ _ ev h)
    · exact ih _ _ _ ev h

theorem allL_single (dp dc : Str) (lvl : Nat) (n : Node) : allL dp dc lvl [n] = allN dp dc lvl n := List.append_nil _

theorem all_levels_ge_N (dp dc : Str) (lvl : Nat) : ∀ (n : Node), ∀ ev ∈ allN dp dc lvl n, lvl ≤ ev.2.2 :=
  fun n => allL_single dp dc lvl n ▸ all_levels_ge_L dp dc lvl [n]

theorem events_are_window_L (rp : RootParams) (dp dc : Str) (lvl : Nat) (hl : rp.maxDepth = 0 ∨ lvl ≤ rp.maxDepth)
    (ns : List Node) : eventsL rp dp dc lvl ns = (allL dp dc lvl ns).filter (inMax rp) := by
  have hself : ∀ e : Node × Entry, inMax rp (e.1, e.2, lvl) = true := fun _ => by
    rcases hl with h | h <;> simp [inMax, h]
  induction ns using forest_induct generalizing dp dc lvl with
  | nil => rfl
  | leaf le z ns ih =>
    simp only [eventsL, eventsN, allL, allN, List.cons_append, List.nil_append, List.filter_cons, hself (_, _), if_true,
      ih _ _ _ hl hself]
  | dir de l kids ns ihk ih =>
    simp only [eventsL, eventsN, allL, allN, List.cons_append, List.filter_cons, List.filter_append, hself (_, _), if_true,
      ih _ _ _ hl hself]
    congr 2
    cases l with
    | false => simp
    | true =>
      simp only [Bool.and_true, if_true]
      by_cases hgo : (rp.maxDepth == 0 || decide (lvl < rp.maxDepth)) = true
      · have hl' : rp.maxDepth = 0 ∨ lvl + 1 ≤ rp.maxDepth := (maxGate rp lvl).mp hgo
        simp only [hgo, if_true]
        exact ihk _ _ _ hl' fun _ => by rcases hl' with h | h <;> simp [inMax, h]
      · -- everything below is deeper than maxdepth
        have hmax : rp.maxDepth ≠ 0 ∧ ¬ lvl < rp.maxDepth := not_or.mp (mt (maxGate rp lvl).mpr hgo)
        simp only [hgo]
        symm
        apply List.filter_eq_nil_iff.mpr
        intro ev hev
        have := all_levels_ge_L _ _ (lvl + 1) kids ev hev
        simp only [inMax, Bool.or_eq_true, beq_iff_eq, decide_eq_true_eq, not_or]
        exact ⟨hmax.1, by omega⟩

/-- the reported entries are the full pre-order `allL` filtered by `level ≤ maxdepth` (fselect reads `maxdepth 0` as
    unbounded, so level 1 is within every `maxdepth`) -/
theorem events_are_window (rp : RootParams) (path canon : Str) (kids : List Node) :
    eventsL rp path canon 1 kids = (allL path canon 1 kids).filter (inMax rp) :=
  events_are_window_L rp path canon 1 (by omega) kids

/-- entries above the window (level < mindepth) are visited but not reported; with `events_are_window`: exactly the
    entries whose nesting level satisfies the window are reported -/
theorem below_mindepth_not_reported (p : Plan) (rp : RootParams) (lvl : Nat) (n : Node) (e : Entry) (rs : ResSt)
    (hmin : rp.minDepth ≠ 0) (hlt : lvl < rp.minDepth) : reportEntry p rp lvl n e rs = .ok rs :=
  reportEntry_above p rp lvl n e rs hmin hlt

/-- … and a non-directory inside it that carries no member table is reported by `check_file` alone (for archives see
    `C19.archive_report`) -/
theorem in_window_reported (p : Plan) (rp : RootParams) (lvl : Nat) (le e : Entry) (rs : ResSt)
    (hmin : rp.minDepth = 0 ∨ rp.minDepth ≤ lvl) : reportEntry p rp lvl (.leaf le none) e rs = checkFile p rs e := by
  rw [reportEntry_inside p rp lvl _ e rs hmin]
  cases checkFile p rs e <;> rfl

/-- dfs: a directory is immediately followed by its whole (pruned) subtree -/
theorem dfs_subtree_contiguous (rp : RootParams) (dp dc : Str) (lvl : Nat) (de : Entry) (l : Bool) (kids rest : List Node) :
    ∃ sub, eventsL rp dp dc lvl (.dir de l kids :: rest) =
      (.dir de l kids, fillEntry de dp dc de.absPath, lvl) :: sub ++ eventsL rp dp dc lvl rest ∧
      (∀ ev ∈ sub, lvl < ev.2.2) := by
  refine ⟨if (rp.maxDepth == 0 || lvl < rp.maxDepth) && l then
      eventsL rp (fillEntry de dp dc de.absPath).path (childCanon dc de.name) (lvl + 1) kids else [], ?_, ?_⟩
  · simp [eventsL, eventsN]
  · intro ev hev
    split at hev
    · rename_i hgo
      rw [events_are_window_L rp _ _ (lvl + 1) ((maxGate rp lvl).mp (Bool.and_eq_true_iff.mp hgo).1) kids] at hev
      have := all_levels_ge_L _ _ (lvl + 1) kids ev (List.mem_filter.mp hev).1
      omega
    · simp at hev

/-- a symbolic link (or any non-directory) contributes its own event only.  This is the specification side (`eventsN`);
    that the walker does so is `dfs_root_exact`. -/
theorem links_not_entered (rp : RootParams) (dp dc : Str) (lvl : Nat) (le : Entry) (z : Option (List ArcInfo)) :
    eventsN rp dp dc lvl (.leaf le z) = [(.leaf le z, fillEntry le dp dc le.absPath, lvl)] := rfl

mutual
def sizeN : Node → Nat
  | .leaf _ _ => 1
  | .dir _ l kids => 1 + (if l then sizeL kids else 0)
def sizeL : List Node → Nat
  | [] => 0
  | n :: ns => sizeN n + sizeL ns
end

theorem all_count_L (dp dc : Str) (lvl : Nat) (ns : List Node) : (allL dp dc lvl ns).length = sizeL ns := by
  induction ns using forest_induct generalizing dp dc lvl with
  | nil => rfl
  | leaf le z ns ih => simp [allL, allN, sizeL, sizeN, ih]; omega
  | dir de l kids ns ihk ih =>
    simp only [allL, allN, sizeL, sizeN, List.length_append, List.length_cons, ih]
    cases l with
    | false => simp
    | true => simp only [if_true, ihk]; omega

theorem all_count_N (dp dc : Str) (lvl : Nat) : ∀ n : Node, (allN dp dc lvl n).length = sizeN n := fun n => by
  simpa only [allL_single, sizeL, Nat.add_zero] using all_count_L dp dc lvl [n]

/-- with unbounded depth there are exactly as many reported entries as the tree has entries (`sizeL`: what lies inside
    an unlistable directory is not counted) -/
theorem events_count (rp : RootParams) (path canon : Str) (kids : List Node) (h0 : rp.maxDepth = 0) :
    (eventsL rp path canon 1 kids).length = sizeL kids := by
  rw [events_are_window rp path canon kids]
  have : (allL path canon 1 kids).filter (inMax rp) = allL path canon 1 kids := by
    apply List.filter_eq_self.mpr
    intro ev _
    simp [inMax, h0]
  rw [this, all_count_L]

/-- the hypotheses can be met: `goodL`, distinct and unseen inode numbers, for a directory with a file and a sub-directory -/
example :
    let f : Entry := { name := ofS "f", path := [], absPath := none, absDir := none, kind := 'f', size := 1, mode := 0,
                        uid := 0, gid := 0, nlink := 1, ino := 11, dev := 0, blocks := 0, mtime := 0 }
    let d : Entry := { f with name := ofS "d", kind := 'd', ino := 12 }
    let kids := [Node.leaf f none, Node.dir d true [Node.leaf { f with name := ofS "g", ino := 13 } none]]
    goodL kids ∧ (inodesL kids).Nodup ∧ (∀ i ∈ inodesL kids, i ∉ ([] : List Nat)) := by
  refine ⟨?_, ?_, ?_⟩
  · simp [goodL, goodN, ofS]
  · simp [inodesL, inodesN]
  · simp

/-- a root searched breadth-first (the default) with no streamed LIMIT: the result state is exactly `check_file` folded
    over `levelOrder` (list a directory, then whatever was queued before its sub-directories, then them); exactly the
    unlistable directories are recorded (`levelFaults`).  The fuel the model gives the queue loop, one per directory
    of the tree plus one, suffices (`bfsEvents_enough`). -/
theorem bfs_root_exact (p : Plan) (rp : RootParams) (hl : NoLimit p) (path canon : Str) (kids : List Node) (st : WSt)
    (hq : st.walk.queue = [])
    (hg : goodL kids) (hnd : (inodesL kids).Nodup) (hfresh : ∀ i ∈ inodesL kids, i ∉ st.walk.visited) :
    match foldReport p rp st.res (levelOrder rp [rootItem path canon kids]) with
    | .error a => bfsRoot p rp path canon kids st = .error a
    | .ok rs' => ∃ w', bfsRoot p rp path canon kids st = .ok { res := rs', walk := w' } ∧
        w'.errPaths = st.walk.errPaths ++ levelFaults rp [rootItem path canon kids] ∧
        w'.errCount = st.walk.errCount + (levelFaults rp [rootItem path canon kids]).length ∧
        (∀ i, i ∈ w'.visited → i ∈ st.walk.visited ∨ i ∈ inodesL kids) := by
  rw [foldReport_eq_foldLim p rp hl]
  exact match_imp (bfs_root_any p rp path canon kids st hq hg ⟨hnd, hfresh⟩)
    fun rs' _ ⟨w', h1, h2⟩ => ⟨w', h1, h2 (noLimit_false p hl rs')⟩

/-- **bfs and dfs return the same set**: the level order of the root is a permutation of the pre-order -/
theorem bfs_same_entries_as_dfs (rp : RootParams) (path canon : Str) (kids : List Node)
    (hroot : 1 < canon.length) (hbase : rp.base = calcDepth canon) (hg : goodL kids) :
    (levelOrder rp [rootItem path canon kids]).Perm (eventsL rp path canon 1 kids) :=
  (rootItem_perm rp path canon kids hroot hbase hg).1

/-- **bfs order**: no entry precedes an entry of smaller depth -/
theorem bfs_levels_nondecreasing (rp : RootParams) (path canon : Str) (kids : List Node)
    (hroot : 1 < canon.length) (hbase : rp.base = calcDepth canon) (hg : goodL kids) :
    (levelOrder rp [rootItem path canon kids]).Pairwise (fun a b => a.2.2 ≤ b.2.2) := by
  refine levelOrder_sorted rp _ (rootItem_wf rp path canon kids hroot hbase hg).1 ⟨List.pairwise_singleton _ _, ?_⟩
  intro x hx y hy
  simp only [List.mem_singleton] at hx hy
  subst hx; subst hy; omega

/-- one root that resolves to a listable directory, in its own traversal mode -/
theorem one_root_exact (p : Plan) (hl : NoLimit p) (r : RootRec) (st : WSt)
    (hnd : r.inos.Nodup) (hfresh : ∀ i ∈ r.inos, i ∉ st.walk.visited) (hg : goodL r.kids) (hc : 1 < r.canon.length) :
    match foldReport p r.rp st.res r.events with
    | .error a => searchRoot p r.root (.dir r.e true r.kids r.canon) st = .error a
    | .ok rs' => ∃ w', searchRoot p r.root (.dir r.e true r.kids r.canon) st = .ok { res := rs', walk := w' } ∧
        (∀ i, i ∈ w'.visited → i ∈ st.walk.visited ∨ i ∈ r.inos) := by
  rw [foldReport_eq_foldLim p r.rp hl]
  exact match_imp (searchRoot_any p r.root r.e r.kids r.canon st (fun _ => ⟨hnd, hfresh⟩) hg hc)
    fun rs' _ ⟨w', h1, h2⟩ => ⟨w', h1, h2 (noLimit_false p hl rs')⟩

/-- plain roots (no `regexp`, `symlinks` or ignore option) with pairwise distinct inode numbers are searched one after
    the other, each reporting exactly its own events in its own mode and depth window -/
theorem roots_exact (p : Plan) (fs : FSnap) (multi : Bool) (hl : NoLimit p) :
    ∀ (recs : List RootRec) (st : WSt), (∀ r ∈ recs, PlainRoot p fs r) →
      (recs.flatMap RootRec.inos).Nodup → (∀ i ∈ recs.flatMap RootRec.inos, i ∉ st.walk.visited) →
      match foldRoots p st.res recs with
      | .error a => searchRoots p fs multi (recs.map (·.root)) st = .error a
      | .ok rs' => ∃ w', searchRoots p fs multi (recs.map (·.root)) st = .ok { res := rs', walk := w' } :=
  fun recs st hp hnd hfr => by
    rw [foldRoots_eq_lim p hl, foldRootsLim_flat]
    exact match_imp (roots_any p fs multi recs st hp fun _ => ⟨hnd, hfr⟩) fun _ _ ⟨w', h, _⟩ => ⟨w', h⟩

/-- **the root directory `/`**: the entries of a directory directly inside `/` are on level 2, as under any other
    root (D58 fix: `calc_depth` counted slashes, `/` and `/usr` both have one, and everything below the root `/` was
    one level off).  This is the depth arithmetic only: the walker theorems themselves ask for a canonical root path
    longer than `/`. -/
theorem root_slash_child_level (name : Str) (hn : ¬ name.contains '/') (hne : name ≠ []) :
    calcDepth (childCanon ['/'] name) - calcDepth ['/'] + 1 = 2 := by
  rw [depth_child_of_root name hn hne]
  omega

/-- a concrete check: `/usr` is one level below `/` -/
example : calcDepth (childCanon ['/'] (ofS "usr")) = calcDepth ['/'] + 1 := by decide

end Fsel.C01
