/-
  A quoted literal is one string token, whatever it contains; `looks_like_expression` does not
  depend on letter case and accepts every word of name characters that is a column or a function.
-/
import Fsel.Model.Lexer
import Fsel.Lemmas.Text

namespace Fsel
namespace LexL
open TextL

theorem peek_cons (st : LexSt) (c : Char) (r : Str) (ps : List Str) (hp : st.parts = (c :: r) :: ps) (hs : st.synth = false) :
    peek st = some (c, { st with parts := r :: ps }, st) := by
  unfold peek
  simp [hp, hs]

/-- the three quoted modes, each with its quote -/
def quotes : List (LMode × Char) := [(.sq, '\''), (.dq, '"'), (.bq, '`')]

theorem mem_quotes {m : LMode} {q : Char} (h : (m, q) ∈ quotes) :
    (m, q) = (.sq, '\'') ∨ (m, q) = (.dq, '"') ∨ (m, q) = (.bq, '`') := by
  simpa [quotes] using h

/-- one step of `scan` inside a quoted literal of any of the three kinds -/
theorem scan_quote_step {m : LMode} {q : Char} (hm : (m, q) ∈ quotes)
    {acc : Str} {st st' st0 : LexSt} {c : Char} (hpk : peek st = some (c, st', st0)) :
    scan m acc st = if c == q then (m, acc, st') else scan m (acc ++ [c]) st' := by
  rw [scan]
  split
  · rename_i h; rw [hpk] at h; cases h
  · rename_i h
    rw [hpk] at h
    cases h
    rcases mem_quotes hm with h | h | h <;> cases h <;> rfl

/-- inside quotes every character up to the closing quote is taken literally -/
theorem scan_quoted {m : LMode} {q : Char} (hm : (m, q) ∈ quotes) (s : Str) (hq : ∀ c ∈ s, c ≠ q) :
    ∀ (acc r : Str) (ps : List Str) (st : LexSt), st.parts = (s ++ q :: r) :: ps → st.synth = false →
      scan m acc st = (m, acc ++ s, { st with parts := r :: ps }) := by
  induction s with
  | nil =>
    intro acc r ps st hp hs
    rw [scan_quote_step hm (peek_cons st q r ps hp hs)]
    simp
  | cons d s ih =>
    intro acc r ps st hp hs
    rw [scan_quote_step hm (peek_cons st d (s ++ q :: r) ps hp hs),
      if_neg (by simpa using hq d (List.mem_cons_self ..)),
      ih (fun c hc => hq c (List.mem_cons_of_mem _ hc)) (acc ++ [d]) r ps { st with parts := (s ++ q :: r) :: ps } rfl hs]
    simp

/-- outside a token a blank is skipped and an opening quote switches to its quoted mode -/
theorem scan_undefined_step {c : Char} {m : LMode} (hc : (m, c) ∈ (LMode.undefined, ' ') :: quotes)
    (acc rest : Str) (ps : List Str) (st : LexSt) (hp : st.parts = (c :: rest) :: ps) (hs : st.synth = false) :
    scan .undefined acc st = scan m acc { st with parts := rest :: ps, afterOpen := false } := by
  rw [scan]
  split
  · rename_i h; rw [peek_cons st c rest ps hp hs] at h; cases h
  · rename_i h
    rw [peek_cons st c rest ps hp hs] at h
    cases h
    rcases List.mem_cons.mp hc with h | h
    · cases h; rfl
    · rcases mem_quotes h with h | h | h <;> cases h <;> rfl

theorem scan_skip_blank (rest : Str) (ps : List Str) (st : LexSt) (hp : st.parts = (' ' :: rest) :: ps) (hs : st.synth = false) :
    scan .undefined [] st = scan .undefined [] { st with parts := rest :: ps, afterOpen := false } :=
  scan_undefined_step (.head _) [] rest ps st hp hs

/-- a whole quoted literal at the start of a word is one `str` token, and the lexer goes on right behind the closing quote -/
theorem next_lexem_quoted {m : LMode} {q : Char} (hm : (m, q) ∈ quotes)
    (s r : Str) (ps : List Str) (st : LexSt) (hq : ∀ c ∈ s, c ≠ q)
    (hp : st.parts = (q :: (s ++ q :: r)) :: ps) (hs : st.synth = false) :
    nextLexem st = (some (.str s), { st with parts := r :: ps, afterOpen := false, psr := false, afterOperator := false }) := by
  rw [nextLexem, scan_undefined_step (.tail _ hm) [] (s ++ q :: r) ps st hp hs,
    scan_quoted hm s hq [] r ps { st with parts := (s ++ q :: r) :: ps, afterOpen := false } rfl hs]
  have h1 : (Lexem.str s == Lexem.from_) = false := rfl
  have h2 : (Lexem.str s == Lexem.comma) = false := rfl
  rcases mem_quotes hm with h | h | h <;> cases h <;> simp [h1, h2]

theorem lowerAscii_nameChar (c : Char) : isNameChar (lowerAscii c) = isNameChar c := by
  rcases lowerAscii_spec c with ⟨_, h⟩ | ⟨h1, h2, h3⟩
  · rw [h]
  · simp [isNameChar, isAsciiAlnum, isDigit, isAsciiAlpha, le_iff_toNat, h1, h2, h3]

theorem looksLikeExpression_lower (s : Str) : looksLikeExpression (lowerStr s) = looksLikeExpression s := by
  unfold looksLikeExpression splitBy
  have h : splitBy.go (fun c => !isNameChar c) (lowerStr s) [] = (splitBy.go _ s []).map lowerStr :=
    splitBy_go_map (fun c => by rw [lowerAscii_nameChar]) s []
  rw [h, List.all_map]
  congr 1
  funext p
  simp only [Function.comp, Field.ofStr?, Function.ofStr?, lowerStr_idem, parseI64_lower]

/-- a word of name characters is one piece for `looks_like_expression`, so it passes as soon as it is a column or a function -/
theorem looksLikeExpression_of_name {s : Str} (hn : ∀ c ∈ s, isNameChar c = true)
    (h : (Field.ofStr? s).isSome = true ∨ (Function.ofStr? s).isSome = true) : looksLikeExpression s = true := by
  have e : splitBy (fun c => !isNameChar c) s = [s] := by
    simpa [splitBy, splitBy.go] using splitBy_go_free (fun c => !isNameChar c) s (fun c hc => by simp [hn c hc]) [] []
  rcases h with h | h <;> simp [looksLikeExpression, e, h]

end LexL
end Fsel
