/-
  The regex parser of the model turns the pattern text that `convert_glob_to_pattern` /
  `convert_like_to_pattern` produce into exactly the anchored atom chain of `Lemmas/Glob`:
      rxParse ("^(?is)" ++ text(atoms) ++ "$") = ok (anchored atoms)
  for every pattern (any length).
-/
import Fsel.Lemmas.Glob

namespace Fsel
namespace GlobP
open GlobL

def atomText : Atom → Str
  | .lit c => regexEscape c
  | .one => ['.']
  | .many => ['.', '*']

def atomsText (as : List Atom) : Str := as.flatMap atomText

def flags : RxFlags := { ci := true, dotAll := true }

def noPostfix (s : Str) : Bool :=
  match s with
  | c :: _ => c != '*' && c != '+' && c != '?' && c != '{'
  | [] => true

theorem parsePostfix_none (a : Re) (f : Nat) (s : Str) (h : noPostfix s = true) : parsePostfix a f s = some (a, s) := by
  cases f with
  | zero => rfl
  | succ f =>
    cases s with
    | nil => rfl
    | cons c r =>
      simp only [noPostfix, Bool.and_eq_true, bne_iff_ne, ne_eq] at h
      -- `rw` finds the equation of the catch-all arm `| _ => some (a, s)`; its side conditions say that `c :: r`
      -- is none of the earlier patterns `'*' :: _`, `'+' :: _`, `'?' :: _`, `'{' :: _`, which is `h`
      rw [parsePostfix] <;> (intro _ e; cases e; simp at h)

theorem parsePostfix_star (a : Re) (f : Nat) (s : Str) (h : noPostfix s = true) :
    parsePostfix a (f + 1) ('*' :: s) = some (.star a, s) := by
  rw [parsePostfix]
  simp only
  split
  · simp [noPostfix] at h
  · exact parsePostfix_none _ _ _ h

/-- the tests `parseSeq` makes on the character after a backslash, decided for every character `regex::escape`
    puts a backslash before: none is a class escape, an unsupported escape, `n`/`t`/`r` or a letter, so each is
    read as itself -/
theorem meta_facts : ∀ c ∈ regexMeta, classEscape c = none ∧
    (c == 'D' || c == 'W' || c == 'S' || c == 'b' || c == 'B' || c == 'A' || c == 'z' || c == 'p' || c == 'P'
       || c == 'x' || c == 'u' || c == 'U' || isDigit c) = false ∧
    (c == 'n') = false ∧ (c == 't') = false ∧ (c == 'r') = false ∧ isAsciiAlpha c = false := by decide

theorem noPostfix_text (as : List Atom) : noPostfix (atomsText as ++ ['$']) = true := by
  cases as with
  | nil => rfl
  | cons a as =>
    cases a with
    | lit c =>
      simp only [atomsText, List.flatMap_cons, atomText, regexEscape]
      by_cases hm : regexMeta.contains c = true
      · simp only [hm, if_true, List.cons_append, noPostfix]; decide
      · simp only [hm, Bool.false_eq_true, if_false, List.cons_append, List.nil_append, noPostfix]
        have : c ≠ '*' ∧ c ≠ '+' ∧ c ≠ '?' ∧ c ≠ '{' := by
          refine ⟨?_, ?_, ?_, ?_⟩ <;> (intro h; subst h; exact hm (by decide))
        simp [this]
    | one => rfl
    | many => rfl

theorem parseSeq_atom (a : Atom) (rest : Str) (acc : Re) (f : Nat) (h : noPostfix rest = true) :
    parseSeq flags (f + 2) (atomText a ++ rest) acc = parseSeq flags (f + 1) rest (.seq acc a.re) := by
  cases a with
  | one =>
    rw [atomText, List.cons_append, List.nil_append, parseSeq]
    simp only [flags, parsePostfix_none _ _ _ h, Atom.re]
  | many =>
    rw [atomText, List.cons_append, List.cons_append, List.nil_append, parseSeq]
    simp only [flags, parsePostfix_star _ _ _ h, Atom.re]
  | lit c =>
    rw [atomText, regexEscape]
    by_cases hm : regexMeta.contains c = true
    · obtain ⟨m1, m2, m3, m4, m5, m6⟩ := meta_facts c (List.contains_iff_mem.mp hm)
      rw [if_pos hm, List.cons_append, List.cons_append, List.nil_append, parseSeq]
      simp only [m1, m2, m3, m4, m5, m6, Bool.false_eq_true, if_false, flags, parsePostfix_none _ _ _ h, Atom.re]
    · -- `rw` finds the equation of the last arm `| c :: r` of `parseSeq`; its side conditions say that `c` is none
      -- of the characters the earlier arms match, all of which are in `regexMeta`
      rw [if_neg hm, List.cons_append, List.nil_append, parseSeq]
      · simp only [flags, parsePostfix_none _ _ _ h, Atom.re]
      all_goals (intros; subst_vars; exact hm (by decide))

theorem parseSeq_atoms (as : List Atom) (acc : Re) (f : Nat) (hf : as.length + 2 ≤ f) :
    parseSeq flags f (atomsText as ++ ['$']) acc = some (chain acc (as.map Atom.re ++ [Re.eol]), []) := by
  obtain ⟨f, rfl⟩ : ∃ g, f = g + 2 := ⟨f - 2, by omega⟩
  induction as generalizing acc f with
  | nil => rfl
  | cons a as ih =>
    obtain ⟨f, rfl⟩ : ∃ g, f = g + 1 := ⟨f - 1, by simp at hf; omega⟩
    rw [show atomsText (a :: as) ++ ['$'] = atomText a ++ (atomsText as ++ ['$']) by simp [atomsText],
      parseSeq_atom _ _ _ _ (noPostfix_text as)]
    exact ih _ _ (by simp at hf ⊢; omega)

theorem parseSeq_prefix (f : Nat) (rest : Str) (acc : Re) :
    parseSeq {} (f + 2) ('^' :: '(' :: '?' :: 'i' :: 's' :: ')' :: rest) acc = parseSeq flags f rest (.seq acc .bol) := rfl

theorem length_le_atomsText (as : List Atom) : as.length ≤ (atomsText as).length := by
  induction as with
  | nil => exact Nat.le_refl _
  | cons a t ih =>
    have : 1 ≤ (atomText a).length := by
      cases a with
      | lit c => rw [atomText, regexEscape]; split <;> exact Nat.succ_pos _
      | one => exact Nat.le_refl _
      | many => exact Nat.le_succ _
    rw [atomsText, List.flatMap_cons, List.length_append, List.length_cons, Nat.add_comm]
    exact Nat.add_le_add this ih

/-- **the regex parser reads the escaped pattern text back as the anchored atom chain** -/
theorem rxParse_anchored (as : List Atom) :
    rxParse (ofS "^(?is)" ++ atomsText as ++ ['$']) = .ok (anchored as) := by
  have hlen : as.length + 5 ≤ 4 * (ofS "^(?is)" ++ atomsText as ++ ['$']).length + 8 := by
    have := length_le_atomsText as
    simp only [List.length_append, show (ofS "^(?is)").length = 6 from rfl, List.length_cons, List.length_nil]
    omega
  unfold rxParse
  generalize 4 * (ofS "^(?is)" ++ atomsText as ++ ['$']).length + 8 = fuel at hlen
  obtain ⟨f, rfl⟩ : ∃ f, fuel = f + 2 + 1 := ⟨fuel - 3, by omega⟩
  have : parseAlt {} (f + 2 + 1) (ofS "^(?is)" ++ atomsText as ++ ['$']) = some (anchored as, []) := by
    rw [parseAlt, show ofS "^(?is)" ++ atomsText as ++ ['$'] = '^' :: '(' :: '?' :: 'i' :: 's' :: ')' :: (atomsText as ++ ['$']) from rfl,
      parseSeq_prefix, parseSeq_atoms as _ f (by omega)]
    rfl
  simp only [this]

end GlobP
end Fsel
