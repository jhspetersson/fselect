/-
  C11  Documented alternative spellings of a query denote the same query.

  Model: the recognisers of `Ast.lean`/`Parser.lean` over the alias tables of the code (`Gen/Tables.lean`, from
  field.rs, function.rs, operators.rs, query.rs, lexer.rs), the alias groups of the documentation
  (`Gen/DocTables.lean`, from docs/usage.md) — both regenerated on every run —, the select-list loop, the lexer.
  Idea: three kinds of statement.  Over the tables, by evaluation: within every alias group of the documentation all
  spellings are recognised and denote the same constructor (`doc_*_aliases`), different groups different ones
  (`doc_*_distinct`: columns, functions, operators, arithmetic words), and every documented name passes the lexer's
  `looks_like_expression` test.  For all words: every recogniser looks its word up ASCII-lower-cased
  (`*_case_insensitive`).  For the optional parts of the syntax, one equation of the parser or lexer each.
  Not theorems: invariance under splitting the query into shell words at white space. It is FALSE for some
  split points (D01, known finding: the word after FROM extends to the end of its shell word — required by the
  repository's own `path_with_spaces` test) and is decided for the other renderings by the metamorphic check
  (parsed query and rows identical between renderings) and the in-process lexer/parser correspondence.
-/
import Fsel.Lemmas.Lexer
import Fsel.Gen.DocTables
import Fsel.Lemmas.ParseRun
import Fsel.Model.ParserTop

namespace Fsel.C11
open Fsel ParseL

/-- all spellings of a group are recognised and denote the same thing -/
def groupOK {α : Type} [BEq α] (res : Str → Option α) : List Str → Bool
  | [] => false
  | a :: r => (res a).isSome && r.all (fun b => res b == res a)

/-! ### the tables: one evaluation each

`tableOK` is what is evaluated: every spelling of the documentation is resolved once (`vs`, which the kernel caches)
and both facts are read off the results.  Distinctness is decided on constructor numbers, which the kernel compares
natively; distinct images under any function come from distinct values. -/

def valsOK {α : Type} [BEq α] : List (Option α) → Bool
  | [] => false
  | a :: r => a.isSome && r.all (· == a)

theorem groupOK_eq {α : Type} [BEq α] (res : Str → Option α) (g : List Str) : groupOK res g = valsOK (g.map res) := by
  cases g <;> simp [groupOK, valsOK, List.all_map, Function.comp_def]

def tableOK {α : Type} [BEq α] (res : Str → Option α) (key : α → Nat) (gs : List (List Str)) : Bool :=
  let vs := gs.map (·.map res)
  vs.all valsOK && decide (vs.map fun v => (v.headD none).elim 0 key).Nodup

theorem tableOK_sound {α : Type} [BEq α] {res : Str → Option α} {key : α → Nat} {gs : List (List Str)}
    (h : tableOK res key gs = true) :
    gs.all (groupOK res) = true ∧ (gs.map fun g => res (g.headD [])).Nodup := by
  simp only [tableOK, Bool.and_eq_true, decide_eq_true_eq, List.all_map] at h
  have h1 : gs.all (groupOK res) = true := by
    rw [← h.1]; congr 1; funext g; exact groupOK_eq res g
  refine ⟨h1, ?_⟩
  -- no group is empty, so the head of a group's results is the result of its head
  have hd : ∀ g ∈ gs, (g.map res).headD none = res (g.headD []) := by
    intro g hg
    have := List.all_eq_true.mp h1 g hg
    cases g with
    | nil => simp [groupOK] at this
    | cons a r => rfl
  -- distinct keys come from distinct results
  refine List.pairwise_map.mpr ((List.pairwise_map.mp (List.pairwise_map.mp h.2)).imp_of_mem ?_)
  intro g g' hg hg' hne e
  exact hne (by rw [hd g hg, hd g' hg', e])

theorem groupOK_isSome {α : Type} [BEq α] {res : Str → Option α} {g : List Str} (h : groupOK res g = true) :
    ∀ s ∈ g, (res s).isSome = true := by
  cases g with
  | nil => simp [groupOK] at h
  | cons a r =>
    simp only [groupOK, Bool.and_eq_true, List.all_eq_true] at h
    intro s hs
    rcases List.mem_cons.mp hs with rfl | hs
    · exact h.1
    · -- `α` has a `BEq` that need not be lawful, so `res s == res a` is used by cases on the two results only
      have h1 := h.1
      have h2 := h.2 s hs
      generalize res a = x at h1 h2
      generalize res s = y at h2
      cases x <;> cases y <;> first | rfl | exact Bool.noConfusion h1 | exact Bool.noConfusion h2

theorem groups_pass {α : Type} [BEq α] (res : Str → Option α) (gs : List (List Str))
    (hr : ∀ s, (res s).isSome = true → (Field.ofStr? s).isSome = true ∨ (Function.ofStr? s).isSome = true)
    (ha : gs.all (groupOK res) = true) (hn : gs.all (fun g => g.all (·.all isNameChar)) = true) :
    gs.all (fun g => g.all looksLikeExpression) = true := by
  simp only [List.all_eq_true] at ha hn ⊢
  exact fun g hg s hs => LexL.looksLikeExpression_of_name (hn g hg s hs) (hr s (groupOK_isSome (ha g hg) s hs))

theorem doc_fields_ok : tableOK Field.ofStr? Field.ctorIdx docFieldGroups = true := by decide +kernel
theorem doc_functions_ok : tableOK Function.ofStr? Function.ctorIdx docFunctionGroups = true := by decide +kernel
theorem doc_ops_ok : tableOK Op.ofStr? Op.ctorIdx docOpGroups = true := by decide +kernel
theorem doc_arith_ok : tableOK ArithOp.ofStr? ArithOp.ctorIdx docArithGroups = true := by decide +kernel

theorem doc_field_aliases : docFieldGroups.all (groupOK Field.ofStr?) = true := (tableOK_sound doc_fields_ok).1
theorem doc_function_aliases : docFunctionGroups.all (groupOK Function.ofStr?) = true := (tableOK_sound doc_functions_ok).1
theorem doc_op_aliases : docOpGroups.all (groupOK Op.ofStr?) = true := (tableOK_sound doc_ops_ok).1
theorem doc_arith_aliases : docArithGroups.all (groupOK ArithOp.ofStr?) = true := (tableOK_sound doc_arith_ok).1

/-- a root option word: either a keyword of `parse_root_options` or (regexp/rx) the operator token it accepts -/
def rootOptionOf (s : Str) : Option (Option RootOptKw) :=
  if isRegexpRootWord s then some none else (rootOptKw s).map some

theorem doc_root_option_aliases : docRootOptionGroups.all (groupOK rootOptionOf) = true := by decide +kernel
theorem doc_format_aliases : docFormatGroups.all (groupOK OutputFormat.ofStr?) = true := by decide +kernel

-- different documented groups denote different things
theorem doc_fields_distinct : (docFieldGroups.map fun g => Field.ofStr? (g.headD [])).Nodup := (tableOK_sound doc_fields_ok).2
theorem doc_functions_distinct : (docFunctionGroups.map fun g => Function.ofStr? (g.headD [])).Nodup :=
  (tableOK_sound doc_functions_ok).2
theorem doc_ops_distinct : (docOpGroups.map fun g => Op.ofStr? (g.headD [])).Nodup := (tableOK_sound doc_ops_ok).2
theorem doc_arith_distinct : (docArithGroups.map fun g => ArithOp.ofStr? (g.headD [])).Nodup := (tableOK_sound doc_arith_ok).2

/-! ### letter case -/

/- every recogniser looks its word up lower-cased, so it factors through `lowerStr` -/
theorem field_case_insensitive (s t : Str) (h : lowerStr s = lowerStr t) : Field.ofStr? s = Field.ofStr? t :=
  congrArg (lookup · fieldTable) h
theorem function_case_insensitive (s t : Str) (h : lowerStr s = lowerStr t) : Function.ofStr? s = Function.ofStr? t :=
  congrArg (lookup · functionTable) h
theorem op_case_insensitive (s t : Str) (h : lowerStr s = lowerStr t) : Op.ofStr? s = Op.ofStr? t :=
  congrArg (lookup · opTable) h
theorem arith_case_insensitive (s t : Str) (h : lowerStr s = lowerStr t) : ArithOp.ofStr? s = ArithOp.ofStr? t :=
  congrArg (lookup · arithTable) h
theorem format_case_insensitive (s t : Str) (h : lowerStr s = lowerStr t) : OutputFormat.ofStr? s = OutputFormat.ofStr? t :=
  congrArg (lookup · formatTable) h
theorem keyword_case_insensitive (s t : Str) (h : lowerStr s = lowerStr t) : keywordOf s = keywordOf t :=
  congrArg (lookup · lexerKeywords) h
theorem root_option_case_insensitive (s t : Str) (h : lowerStr s = lowerStr t) : rootOptionOf s = rootOptionOf t := by
  simp [rootOptionOf, isRegexpRootWord, rootOptKw, h]

/-- in particular a word and its lower-cased / any-cased spelling are the same token -/
theorem field_lowercased (s : Str) : Field.ofStr? (lowerStr s) = Field.ofStr? s :=
  field_case_insensitive _ _ (TextL.lowerStr_idem s)

/-- an explicit `asc` leaves no token: it belongs to the keyword class that the lexer skips -/
theorem explicit_asc_is_skipped : keywordOf (ofS "ASC") = some .kwskip ∧ keywordOf (ofS "asc") = some .kwskip := by decide +kernel

/-! ### optional tokens of the select list -/

/-- commas between the columns are optional: the select-list loop skips them -/
theorem optional_comma (acc : List Expr) (r : List Lexem) :
    (iterate fieldsStep acc (.comma :: r)).1 = (iterate fieldsStep acc r).1 ∧
    (iterate fieldsStep acc (.comma :: r)).2.1 = (iterate fieldsStep acc r).2.1 :=
  Prod.ext_iff.1 (iterate_more rfl)

/-- … and an optional leading `select`, in any letter case -/
theorem optional_select (acc : List Expr) (s : Str) (r : List Lexem) (hs : lowerStr s = ofS "select") :
    (iterate fieldsStep acc (.raw s :: r)).1 = (iterate fieldsStep acc r).1 ∧
    (iterate fieldsStep acc (.raw s :: r)).2.1 = (iterate fieldsStep acc r).2.1 :=
  Prod.ext_iff.1
    (iterate_more (h := by simp) (by simp only [fieldsStep, fieldsWord, hs, beq_self_eq_true, if_true]))

/-- `*` stands for the default columns -/
theorem star_expands (acc : List Expr) (r : List Lexem) :
    (iterate fieldsStep acc (.raw ['*'] :: r)).1 = (iterate fieldsStep (acc ++ starFields) r).1 := by
  have : (lowerStr ['*'] == ofS "select") = false := by decide
  have h : iterOut fieldsStep acc (.raw ['*'] :: r) = iterOut fieldsStep (acc ++ starFields) r :=
    iterate_more (h := by simp)
      (by simp only [fieldsStep, fieldsWord, this, Bool.false_eq_true, if_false, beq_self_eq_true, if_true])
  exact congrArg (·.1) h

/-! ### brackets -/

/-- an expression in round brackets and the same expression in curly brackets are the same factor -/
theorem round_or_curly (bs : Bool) (ts ts' : List Lexem) (x : Expr) (r : List Lexem)
    (h1 : (parseExpr bs ts).res = .ok x) (h2 : (parseExpr bs ts).rest = .close :: r)
    (h1' : (parseExpr bs ts').res = .ok x) (h2' : (parseExpr bs ts').rest = .cclose :: r) :
    (parseParen bs (.open_ :: ts)).res = (parseParen bs (.copen :: ts')).res ∧
    (parseParen bs (.open_ :: ts)).rest = (parseParen bs (.copen :: ts')).rest := by
  have a : (parseParen bs (.open_ :: ts)).out = (.ok x, r) := by rw [parseParen_open_out, out_iff.2 ⟨h1, h2⟩]
  have b : (parseParen bs (.copen :: ts')).out = (.ok x, r) := by rw [parseParen_copen_out, out_iff.2 ⟨h1', h2'⟩]
  exact out_iff.1 (a.trans b.symm)

/-! ### `()` after an argument-less function -/

theorem func0_without_brackets (bs : Bool) (s : Str) (fn : Function) (t : Lexem) (r : List Lexem)
    (hf : Field.ofStr? s = none) (hfn : Function.ofStr? s = some fn)
    (h : fn.isBoolean = true ∨ fn.takesNoArguments = true) (ht : t ≠ .open_ ∧ t ≠ .copen) :
    (parseParen bs (.raw s :: t :: r)).res = .ok (.func0 false fn) ∧ (parseParen bs (.raw s :: t :: r)).rest = t :: r := by
  refine out_iff.1 ?_
  rw [parseParen_raw, leafP_raw_out, hf, hfn]
  dsimp only
  rw [parseFunction_out, fnHeader_ret fn t r ht h]
  rfl

/-- a function that takes no arguments, written without `()`, is the call without arguments, and the token after it is
    left for whatever follows (D31 fix) -/
theorem nullary_without_brackets (bs : Bool) (s : Str) (fn : Function) (t : Lexem) (r : List Lexem)
    (hf : Field.ofStr? s = none) (hfn : Function.ofStr? s = some fn) (hn : fn.takesNoArguments = true)
    (hb : fn.isBoolean = false) (ht : t ≠ .open_ ∧ t ≠ .copen) :
    (parseParen bs (.raw s :: t :: r)).res = .ok (.func0 false fn) ∧ (parseParen bs (.raw s :: t :: r)).rest = t :: r :=
  func0_without_brackets bs s fn t r hf hfn (.inr hn) ht

/-- the same for a boolean function (`has_caps`, `is_...`-style tests): written without brackets it is the call without
    arguments and the token after it is left for whatever follows (D84 fix: it used to be swallowed) -/
theorem boolean_without_brackets (bs : Bool) (s : Str) (fn : Function) (t : Lexem) (r : List Lexem)
    (hf : Field.ofStr? s = none) (hfn : Function.ofStr? s = some fn)
    (hb : fn.isBoolean = true) (ht : t ≠ .open_ ∧ t ≠ .copen) :
    (parseParen bs (.raw s :: t :: r)).res = .ok (.func0 false fn) ∧ (parseParen bs (.raw s :: t :: r)).rest = t :: r :=
  func0_without_brackets bs s fn t r hf hfn (.inl hb) ht

/-- a concrete check: `has_caps` is no column but a boolean function -/
example : Field.ofStr? (ofS "has_caps") = none ∧ Function.ofStr? (ofS "has_caps") = some .HasCapabilities ∧
    Function.isBoolean .HasCapabilities = true := by decide +kernel

/-! ### the lexer: the expression test, the root flag at a comma -/

/-- **a column name keeps meaning the column when an arithmetic sign follows it without a blank, in any letter
    case**: the lexer's `looks_like_expression` test on the pending token gives the same answer for `SIZE*2`,
    `Size+1` and `size*2` — every maximal run of name characters (letters, digits, `_`) is looked up case-insensitively (column, function) or
    read as an integer, which has no letter case -/
theorem expression_test_case_insensitive (s t : Str) (h : lowerStr s = lowerStr t) :
    looksLikeExpression s = looksLikeExpression t := by
  rw [← LexL.looksLikeExpression_lower s, ← LexL.looksLikeExpression_lower t, h]

/-- **every documented column and function name, in every documented spelling, passes the lexer's expression test**, so a
    sign that follows it without a blank ends the name whichever alias is written (`bitrate+1` and `mp3_bitrate+1`,
    `is_dir-1`, `line_count*2`): decided over the tables regenerated from docs/usage.md on every run (D82 fix: names
    with an underscore used to be tested piecewise and failed) -/
theorem documented_names_pass_expression_test :
    docFieldGroups.all (fun g => g.all looksLikeExpression) = true ∧
    docFunctionGroups.all (fun g => g.all looksLikeExpression) = true :=
  ⟨groups_pass Field.ofStr? _ (fun _ => .inl) doc_field_aliases (by decide +kernel),
   groups_pass Function.ofStr? _ (fun _ => .inr) doc_function_aliases (by decide +kernel)⟩

/-- after any token, `possible_search_root` is set exactly by FROM and by a comma of the root list -/
theorem psr_after_token (st st' : LexSt) (l : Lexem) (h : nextLexem st = (some l, st')) :
    st'.psr = (l == .from_ || (l == .comma && !st'.beforeFrom && !st'.afterWhere && !st'.afterBy)) := by
  fun_induction nextLexem st
  -- the call after a skipped keyword (`asc`)
  case case22 ih => exact ih h
  -- everywhere else a token leaves through `fin`, which sets the flag by this formula and leaves the other three alone
  all_goals cases h <;> rfl

/-- **a comma announces a search root only inside the root list**: when `next_lexem` returns a comma and leaves the
    `possible_search_root` flag set — the flag that, in a query passed as several shell words, makes the next word a path up
    to the end of its shell word (D01) — the lexer is after FROM and has seen neither WHERE nor a BY: the commas of the
    select list, of a condition, of GROUP BY and of ORDER BY never set it (D81 fix: without a WHERE clause the commas of
    GROUP BY / ORDER BY did, and the split form of `order by is_dir, length(name)` ordered by a constant).  By functional
    induction over the lexer's `nextLexem`, every token class and keyword. -/
theorem comma_announces_root_only_in_root_list (st st' : LexSt)
    (h : nextLexem st = (some .comma, st')) (hp : st'.psr = true) :
    st'.beforeFrom = false ∧ st'.afterWhere = false ∧ st'.afterBy = false := by
  -- `true = (comma == from || (comma == comma && !beforeFrom && !afterWhere && !afterBy))`: decided on the three flags
  have := hp ▸ psr_after_token st st' _ h
  revert this
  cases st'.beforeFrom <;> cases st'.afterWhere <;> cases st'.afterBy <;> decide

/-! ### quoted literals at the lexer -/

/-- **a quoted literal is one `String` token, whatever it contains** — blanks, commas, brackets, operators,
    keywords (`from`, `where`, `order by` …), column and function names, the other kind of quote: the lexer's
    scanning loop (the model is the well-founded `scan`; `LexL.scan_quoted`, by induction over the text) takes
    every character up to the closing quote literally, in every lexer context (before/after FROM, after
    WHERE, after an operator, possible-search-root …), and goes on right after the closing quote -/
theorem quoted_literal_is_one_token (s r : Str) (ps : List Str) (st : LexSt) (hp : st.synth = false) :
    ((∀ c ∈ s, c ≠ '\'') → st.parts = ('\'' :: (s ++ '\'' :: r)) :: ps →
      nextLexem st = (some (.str s), { st with parts := r :: ps, afterOpen := false, psr := false, afterOperator := false })) ∧
    ((∀ c ∈ s, c ≠ '"') → st.parts = ('"' :: (s ++ '"' :: r)) :: ps →
      nextLexem st = (some (.str s), { st with parts := r :: ps, afterOpen := false, psr := false, afterOperator := false })) :=
  ⟨fun hq h => LexL.next_lexem_quoted (.head _) s r ps st hq h hp,
   fun hq h => LexL.next_lexem_quoted (.tail _ (.head _)) s r ps st hq h hp⟩

/-- the premises are satisfiable: `'order by, (size) = "x"'` at the start of a word -/
example : (∀ c ∈ ofS "order by, (size) = \"x\"", c ≠ '\'') ∧
    (LexSt.init [ofS "'order by, (size) = \"x\"' rest"]).parts = ('\'' :: (ofS "order by, (size) = \"x\"" ++ '\'' :: ofS " rest")) :: [] := by
  decide +kernel

end Fsel.C11
