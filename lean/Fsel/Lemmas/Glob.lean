/-
  The regex that a glob / LIKE pattern compiles to, `^ atoms $` as the parser nests it, matches exactly what the
  textbook matcher `atomsMatch` accepts.  The left-nested sequence is flattened into the remainders after one regex
  after the other; `^` lets only the whole subject through and `$` only the empty remainder; the star over "any
  character" reaches exactly the suffixes, which is what `many` means.  `Model/Dispatch.lean` imports this file for
  `Atom` and `anchored`.
-/
import Fsel.Model.Rx

namespace Fsel
namespace GlobL

/-- one pattern element after conversion: a literal (case-folded), exactly one character, or any run -/
inductive Atom where
  | lit (c : Char)
  | one
  | many
  deriving Repr, BEq

def Atom.re : Atom → Re
  | .lit c => .chr true (.lit c)
  | .one => .chr true (.any true)
  | .many => .star (.chr true (.any true))

/-- textbook matcher: whole string, `many` = any run of characters, `one` = exactly one,
    literals compared modulo case folding -/
def atomsMatch : List Atom → Str → Bool
  | [], s => s.isEmpty
  | .lit c :: as, d :: t => foldChar c == foldChar d && atomsMatch as t
  | .lit _ :: _, [] => false
  | .one :: as, _ :: t => atomsMatch as t
  | .one :: _, [] => false
  | .many :: as, s => atomsMatch as s || (match s with | [] => false | _ :: t => atomsMatch (.many :: as) t)
termination_by as s => as.length + s.length

/-- remainders after matching a sequence of regexes one after the other -/
def matchSeq (n : Nat) : List Re → Str → List Str
  | [], s => [s]
  | r :: rs, s => (r.m n s).flatMap (matchSeq n rs)

/-- the left-nested sequence the regex parser builds -/
def chain (acc : Re) (rs : List Re) : Re := rs.foldl .seq acc

/-- the regex `^ atoms $` as the parser builds it -/
def anchored (as : List Atom) : Re := chain .eps ([Re.bol] ++ as.map Atom.re ++ [Re.eol])

theorem chain_m (n : Nat) (rs : List Re) (acc : Re) (s : Str) :
    (chain acc rs).m n s = (acc.m n s).flatMap (matchSeq n rs) := by
  induction rs generalizing acc with
  | nil => simp [chain, matchSeq]
  | cons r rs ih =>
    simp only [chain, List.foldl_cons] at *
    rw [ih (.seq acc r)]
    simp only [Re.m, matchSeq, List.flatMap_assoc]

theorem matchSeq_append (n : Nat) (xs ys : List Re) (s : Str) :
    matchSeq n (xs ++ ys) s = (matchSeq n xs s).flatMap (matchSeq n ys) := by
  induction xs generalizing s with
  | nil => simp [matchSeq]
  | cons x xs ih =>
    simp only [List.cons_append, matchSeq, List.flatMap_assoc]
    congr 1
    funext t
    exact ih t

theorem matchSeq_eol (n : Nat) (rs : List Re) (s : Str) :
    matchSeq n (rs ++ [Re.eol]) s = (matchSeq n rs s).filter List.isEmpty := by
  rw [matchSeq_append]
  induction matchSeq n rs s with
  | nil => rfl
  | cons t ts ih => rw [List.flatMap_cons, ih, List.filter_cons]; cases h : t.isEmpty <;> simp [matchSeq, Re.m, h]

theorem mStar_any (n : Nat) (s : Str) (f : Nat) (hf : s.length ≤ f) :
    ∀ t, t ∈ mStar ((Re.chr true (.any true)).m n) f s ↔ t <:+ s := by
  induction f generalizing s with
  | zero =>
    intro t
    have : s = [] := List.length_eq_zero_iff.mp (Nat.le_zero.mp hf)
    subst this
    simp [mStar]
  | succ f ih =>
    intro t
    cases s with
    | nil =>
      simp [mStar, Re.m]
    | cons c r =>
      have hstep : ((Re.chr true (.any true)).m n (c :: r)).filter (fun t => t.length < (c :: r).length) = [r] := by
        simp [Re.m, CharSet.test]
      simp only [mStar, hstep, List.flatMap_cons, List.flatMap_nil, List.append_nil, List.mem_cons]
      rw [ih r (by simp at hf; omega)]
      exact List.suffix_cons_iff.symm

theorem atomsMatch_many (as : List Atom) (s : Str) :
    atomsMatch (.many :: as) s = true ↔ ∃ t, t <:+ s ∧ atomsMatch as t = true := by
  induction s with
  | nil =>
    rw [atomsMatch, Bool.or_false]
    exact ⟨fun hm => ⟨[], List.suffix_refl _, hm⟩, fun ⟨t, ht, hm⟩ => List.eq_nil_of_suffix_nil ht ▸ hm⟩
  | cons c r ih =>
    rw [atomsMatch, Bool.or_eq_true, ih]
    simp only [List.suffix_cons_iff, or_and_right, exists_or, exists_eq_left]

theorem matchSeq_atoms (n : Nat) (as : List Atom) (s : Str) :
    (matchSeq n (as.map Atom.re) s).any List.isEmpty = atomsMatch as s := by
  induction as generalizing s with
  | nil => simp [matchSeq, atomsMatch]
  | cons a as ih =>
    cases a with
    | lit c =>
      cases s with
      | nil => simp [matchSeq, Atom.re, Re.m, atomsMatch]
      | cons d t =>
        simp only [List.map_cons, matchSeq, Atom.re, Re.m, CharSet.test, atomsMatch]
        by_cases h : (foldChar c == foldChar d) = true
        · simp [h, ih]
        · simp [h]
    | one =>
      cases s with
      | nil => simp [matchSeq, Atom.re, Re.m, atomsMatch]
      | cons d t => simp [matchSeq, Atom.re, Re.m, CharSet.test, atomsMatch, ih]
    | many =>
      -- the star reaches exactly the suffixes of `s` (`mStar_any`); from each the rest goes by `ih`
      refine Bool.eq_iff_iff.mpr (Iff.trans ?_ (atomsMatch_many as s).symm)
      have star := mStar_any n s s.length (Nat.le_refl _)
      simp only [List.map_cons, matchSeq, Atom.re, Re.m, List.any_eq_true, List.mem_flatMap, ← ih]
      exact ⟨fun ⟨x, ⟨t, ht, hx⟩, hxe⟩ => ⟨t, (star t).mp ht, x, hx, hxe⟩,
        fun ⟨t, ht, x, hx, hxe⟩ => ⟨x, ⟨t, (star t).mpr ht, hx⟩, hxe⟩⟩

theorem anchored_m (as : List Atom) (n : Nat) (t : Str) :
    (anchored as).m n t = if t.length == n then (matchSeq n (as.map Atom.re) t).filter List.isEmpty else [] := by
  rw [anchored, List.append_assoc, chain_m, ← matchSeq_eol]
  simp only [Re.m, List.flatMap_cons, List.flatMap_nil, List.append_nil, List.singleton_append, matchSeq]
  split <;> simp

theorem suffixes_any (p : Str → Bool) (s : Str) (h : ∀ t, t.length < s.length → p t = false) :
    (suffixes s).any p = p s := by
  have short : ∀ r : Str, ∀ t ∈ suffixes r, t.length ≤ r.length := by
    intro r
    induction r with
    | nil => simp [suffixes]
    | cons c r ih =>
      intro t ht
      rcases List.mem_cons.mp ht with rfl | ht
      · exact Nat.le_refl _
      · exact Nat.le_succ_of_le (ih t ht)
  cases s with
  | nil => simp [suffixes]
  | cons c r =>
    rw [suffixes, List.any_cons, List.any_eq_false.mpr fun t ht => by rw [h t (Nat.lt_succ_of_le (short r t ht))]; simp,
      Bool.or_false]

/-- **`is_match` of the anchored regex is the textbook whole-string match** -/
theorem anchored_isMatch (as : List Atom) (subj : Str) :
    (anchored as).isMatch subj = atomsMatch as subj := by
  rw [Re.isMatch, suffixes_any _ _ fun t ht => by rw [anchored_m, if_neg (by simpa using Nat.ne_of_lt ht)]; rfl,
    anchored_m, if_pos (beq_self_eq_true _), ← matchSeq_atoms subj.length]
  induction matchSeq subj.length (as.map Atom.re) subj with
  | nil => rfl
  | cons t ts ih => rw [List.filter_cons, List.any_cons]; cases t.isEmpty <;> simp [ih]

end GlobL
end Fsel
