/-
  C02  WHERE comparisons mean what the documentation says, for every entry.

  Model: `compareValues` (the body of `conforms` for one atom), the `Variant` coercions, the parser's treatment of
  quoted literals, infix NOT and BETWEEN.
  Idea: two halves.  What a comparison *means*: for each type of left operand the verdict of `compareValues` is the
  documented relation between the column's value and what the literal denotes (numbers with or without a unit, the
  boolean words, text with and without wildcards), and a bad literal is a status-2 error.  What a comparison *is*:
  `e1 [not] op e2` and `x [not] between lo and hi`, for arbitrary arithmetic operands, are one atom of the condition
  grammar (`AtomCond`), BETWEEN being inclusive at both ends.  Date atoms are C13's `cmp_table`; pattern atoms C12's
  `glob_end_to_end`/`like_end_to_end`; unit literals C14's `unit_table`.
  Not theorems: the tie between the *columns* and the OS attributes, and float, fractional-unit and date literals
  end to end, are left to the snapshot correspondence plus the Python oracle that evaluates the documented meaning
  from `lstat`.
-/
import Fsel.Props.C14
import Fsel.Lemmas.Num
import Fsel.Lemmas.Compare
import Fsel.Lemmas.ParseCond
import Fsel.Props.C15

namespace Fsel.C02
open Fsel TextL

/-- documented meaning of the ordering and equality operators on numbers (`=`/`==`, `!=`/`!==`, `>`, `>=`, `<`, `<=`) -/
def numSem (op : Op) (a n : Int) : Option Bool :=
  match op with
  | .Eq | .Eeq => some (a == n)
  | .Ne | .Ene => some (a != n)
  | .Gt => some (decide (a > n))
  | .Gte => some (decide (a ≥ n))
  | .Lt => some (decide (a < n))
  | .Lte => some (decide (a ≤ n))
  | _ => none

theorem intOrd_cases (a n : Int) :
    a < n ∧ intOrd a n = .lt ∨ a = n ∧ intOrd a n = .eq ∨ n < a ∧ intOrd a n = .gt := by
  unfold intOrd
  by_cases h1 : a < n
  · simp [h1]
  · by_cases h2 : a = n
    · simp [h2]
    · simp [h1, h2]
      omega

theorem numCmp_intOrd (op : Op) (a n : Int) : numCmp op (some (intOrd a n)) = numSem op a n := by
  rcases intOrd_cases a n with ⟨h, e⟩ | ⟨h, e⟩ | ⟨h, e⟩ <;> rw [e] <;> cases op <;>
    first | rfl | exact congrArg some (by simp <;> omega)

/-- an integer column against an integral literal: the numeric comparison the documentation promises -/
theorem int_atom_spec (today : Int) (c : RxCache) (fv v : Variant) (op : Op) (a n : Int) (b : Bool)
    (hty : fv.ty = .int) (ha : fv.toInt = a) (hfx : fv.exact = true)
    (hv : v.exact = true) (hint : v.toFloat.fractNonZero = false) (hn : v.toInt = n)
    (hsem : numSem op a n = some b) :
    compareValues today c fv op v = .ok (.val b, c) := by
  unfold compareValues
  -- the branch of an integral literal (`hint`), both sides exact: the table on `intOrd a n`
  simp only [hty, hint, Bool.false_eq_true, if_false, hv, hfx, Bool.not_true, Bool.or_self, ha, hn,
    numCmp_intOrd, hsem]

/-- what a literal made of digits denotes -/
theorem literal_digits (n : Nat) (h : (n : Int) ≤ i64Max) :
    (Variant.ofSignedString (showNat n) false).toInt = n := by
  simp [Variant.ofSignedString, Variant.toInt, parseI64_showNat n h]

/-- digits followed by text that begins like a unit word (`unitHead`: no digit, `.`, `e`, `E` or sign) are no integer
    and no float, so `to_int` / `to_float` reach `parse_filesize`: the literal denotes whatever byte count `b` that yields -/
theorem literal_with_suffix (n : Nat) (c : Char) (r : Str) (b : Nat) (hc : NumL.unitHead c = true)
    (hpf : parseFilesize (showNat n ++ c :: r) = some b) (hfit : (b : Int) ≤ i64Max) :
    (Variant.ofSignedString (showNat n ++ c :: r) false).toInt = b ∧
    (Variant.ofSignedString (showNat n ++ c :: r) false).toFloat = Num.mk (b : Rat) true := by
  have hd := NumL.unitHead_not_digit hc
  have hbig : ¬ (b > 9223372036854775807) := by
    have : (i64Max : Int) = 9223372036854775807 := rfl
    omega
  constructor
  · simp [Variant.ofSignedString, Variant.toInt, TextL.parseI64_with_unit n c r hd, TextL.parseUsize_with_unit n c r hd, hpf, hbig]
  · simp [Variant.ofSignedString, Variant.toFloat, NumL.parseF64_with_unit n c r hc, hpf]

/-- **what a literal with a unit denotes** (`size > 10k`, `size <= 3mb` …): every documented unit word begins like one
    (decided over the table), and `parse_filesize` yields number × multiplier by C14's `unit_table` (over the generated
    ladder).  Hence the atom is the numeric comparison with that byte count (next theorem). -/
theorem literal_with_unit (n : Nat) (u : Str) (m : Nat) (hum : (u, m) ∈ C14.docUnits) (hfit : ((n * m : Nat) : Int) ≤ i64Max) :
    (Variant.ofSignedString (showNat n ++ u) false).toInt = (n * m : Nat) ∧
    (Variant.ofSignedString (showNat n ++ u) false).toFloat = Num.mk ((n * m : Nat) : Rat) true := by
  have hfit64 : n * m ≤ u64Max := by
    have : (i64Max : Int) = 9223372036854775807 := rfl
    have : u64Max = 18446744073709551615 := rfl
    omega
  have hhead := (by decide : ∀ p ∈ C14.docUnits, p.1.head?.any NumL.unitHead = true) _ hum
  cases u with
  | nil => cases hhead
  | cons c r => exact literal_with_suffix n c r _ hhead (C14.unit_table n _ m hum hfit64) hfit

/-- `size OP <digits><unit>` is the numeric comparison with number × multiplier bytes, for every ordering /
    equality operator, every documented unit and every number that fits -/
theorem int_atom_with_unit (today : Int) (c : RxCache) (fv : Variant) (op : Op) (a : Int) (b : Bool)
    (n : Nat) (u : Str) (m : Nat) (hum : (u, m) ∈ C14.docUnits) (hfit : ((n * m : Nat) : Int) ≤ i64Max)
    (hty : fv.ty = .int) (ha : fv.toInt = a) (hfx : fv.exact = true)
    (hsem : numSem op a ((n * m : Nat) : Int) = some b) :
    compareValues today c fv op (Variant.ofSignedString (showNat n ++ u) false) = .ok (.val b, c) := by
  obtain ⟨hi, hf⟩ := literal_with_unit n u m hum hfit
  refine int_atom_spec today c fv _ op a _ b hty ha hfx rfl ?_ hi hsem
  rw [hf]
  have hden : (((n * m : Nat) : Rat)).den = 1 := Rat.den_natCast (n * m)
  simp only [Num.mk, Num.fractNonZero, hden, bne_self_eq_false]

/-- `k` and `mb` are documented units, of 1024 and 1000² bytes -/
example : (("k".toList, 1024) ∈ C14.docUnits) ∧ (("mb".toList, 1000 ^ 2) ∈ C14.docUnits) := by decide +kernel

/-- a boolean column against a literal under any operator: both sides are read as 1 and 0 and compared by the
    numeric table; a word that is no boolean is the status-2 error -/
theorem bool_compare (today : Int) (c : RxCache) (fb : Bool) (op : Op) (lit : Str) (hne : lit ≠ []) :
    compareValues today c (.ofBool fb) op (.ofString lit) = match strToBool lit with
      | some lb => .ok (.val ((numSem op (if fb then 1 else 0) (if lb then 1 else 0)).getD false), c)
      | none => .error (.exit2 "Can't parse boolean value") := by
  have hemp : lit.isEmpty = false := by cases lit with | nil => exact absurd rfl hne | cons _ _ => rfl
  unfold compareValues
  simp only [Variant.ofBool, Variant.ofString, Variant.toBool?, hemp, Bool.not_false, if_true, numCmp_intOrd]
  cases strToBool lit with
  | none => rfl
  | some lb =>
    dsimp only
    cases numSem op (if fb then 1 else 0) (if lb then 1 else 0) <;> rfl

/-- a boolean column against a documented boolean word -/
theorem bool_atom_spec (today : Int) (c : RxCache) (fb : Bool) (lit : Str) (lb : Bool) (hl : strToBool lit = some lb)
    (hne : lit ≠ []) :
    compareValues today c (.ofBool fb) .Eq (.ofString lit) = .ok (.val (fb == lb), c) ∧
    compareValues today c (.ofBool fb) .Ne (.ofString lit) = .ok (.val (fb != lb), c) := by
  rw [bool_compare today c fb .Eq lit hne, bool_compare today c fb .Ne lit hne, hl]
  cases fb <;> cases lb <;> exact ⟨rfl, rfl⟩

/-- the documented words for true, in the spellings listed -/
theorem bool_words : ∀ w ∈ ["true", "1", "yes", "y", "TRUE", "Yes", "Y"], strToBool w.toList = some true := by
  decide +kernel

/-- … and the documented words for false -/
theorem bool_words_false : ∀ w ∈ ["false", "0", "no", "n", "FALSE", "No", "N"], strToBool w.toList = some false := by
  decide +kernel

/-- an unparsable boolean literal ends the run with status 2 (no crash) -/
theorem bool_literal_rejected (today : Int) (c : RxCache) (fb : Bool) (op : Op) (lit : Str)
    (hl : strToBool lit = none) (hne : lit ≠ []) :
    compareValues today c (.ofBool fb) op (.ofString lit) = .error (.exit2 "Can't parse boolean value") := by
  rw [bool_compare today c fb op lit hne, hl]

/-- text columns: `=` / `!=` with a literal that contains no wildcard is (in)equality of the text -/
theorem text_eq_spec (today : Int) (c : RxCache) (subj lit : Str) (hg : isGlob lit = false) :
    compareValues today c (.ofString subj) .Eq (.ofString lit) = .ok (.val (lit == subj), c) ∧
    compareValues today c (.ofString subj) .Ne (.ofString lit) = .ok (.val (lit != subj), c) := by
  unfold compareValues
  simp [Variant.ofString, hg]

/-- `===` / `!==` compare the literal text, wildcard characters included -/
theorem text_eeq_spec (today : Int) (c : RxCache) (subj lit : Str) :
    compareValues today c (.ofString subj) .Eeq (.ofString lit) = .ok (.val (lit == subj), c) ∧
    compareValues today c (.ofString subj) .Ene (.ofString lit) = .ok (.val (lit != subj), c) :=
  CompareL.text_eeq today c subj lit

/-- a quoted literal is text, whatever it spells (`ext = 'bin'`, `name = 'size'`) -/
theorem quoted_is_text (bs minus : Bool) (s : Str) (r : List Lexem) :
    (leafP bs minus (.str s :: r)).res = .ok (.val minus s) ∧ (leafP bs minus (.str s :: r)).rest = r :=
  ParseL.out_iff.1 (ParseL.leafP_str_out bs minus s r)

/-- quoting matters: unquoted, `size` and `bin` do spell a column and a function -/
example : (Field.ofStr? (ofS "size")).isSome = true ∧ (Function.ofStr? (ofS "bin")).isSome = true := by decide +kernel

/-! ### the shape of a comparison: BETWEEN, infix NOT, expression operands -/

section shape
open ParseL ParseC

/-- the optional infix NOT (`x not like p`, `x not between a and b`) -/
def infixNotToks (inf : Bool) : List Lexem := if inf then [.not_] else []

theorem infixNot_toks (inf : Bool) (r : List Lexem) (h : r.head? ≠ some .not_) :
    (infixNot (infixNotToks inf ++ r)).1 = inf ∧ (infixNot (infixNotToks inf ++ r)).2.1 = r := by
  cases inf with
  | true => exact ⟨rfl, rfl⟩
  | false =>
    cases r with
    | nil => exact ⟨rfl, rfl⟩
    | cons t rs => cases t <;> first | (exact absurd rfl h) | exact ⟨rfl, rfl⟩

theorem parseCond_at_op (bs : Bool) (k : Nat) (e : E) (h : e.WF bs) (hne : e.toks ≠ []) (hn : e.toks.head? ≠ some .not_)
    (inf : Bool) (o : Str) (t4 : List Lexem) :
    (parseCond bs (nots k ++ (e.toks ++ (infixNotToks inf ++ .op o :: t4)))).out =
      condTail bs (parity k) e.tree inf (.op o :: t4) := by
  have hin := infixNot_toks inf (.op o :: t4) (by simp)
  rw [parseCond_nots bs k (head_append_not hn (fun e => absurd e hne)),
    (E.reads bs h).out (r := infixNotToks inf ++ .op o :: t4) (by cases inf <;> trivial)]
  simp only [hin.1, hin.2]

/-- **`e1 [not] op e2`** for arbitrary arithmetic expressions is one comparison node -/
theorem comparison_of_expressions (bs : Bool) (e1 e2 : E) (h1 : e1.WF bs) (h2 : e2.WF bs)
    (hne : e1.toks ≠ []) (hn : e1.toks.head? ≠ some .not_)
    (o : Str) (op : Op) (ho : Op.ofStr? o = some op) (hnb : (lowerStr o == ofS "between") = false) (inf : Bool) :
    AtomCond bs (e1.toks ++ (infixNotToks inf ++ .op o :: e2.toks))
      (.cmp e1.tree (if inf then op.negate else op) e2.tree) := by
  intro k r hr
  have hR := (E.reads bs h2).out (stopAdd_of_stopCond hr)
  refine out_iff.1 ?_
  rw [show (e1.toks ++ (infixNotToks inf ++ .op o :: e2.toks)) ++ r =
    e1.toks ++ (infixNotToks inf ++ .op o :: (e2.toks ++ r)) by simp, parseCond_at_op bs k e1 h1 hne hn]
  simp only [condTail, hnb, hR, Op.fromWithNot, ho, boolShorthand_cmp]
  cases inf <;> cases parity k <;> rfl

/-- the tree of `x between lo and hi` -/
def betweenTree (x lo hi : Expr) : Expr := .logic (.cmp x .Gte lo) .And (.cmp x .Lte hi)
/-- the tree of `x not between lo and hi` -/
def notBetweenTree (x lo hi : Expr) : Expr := .logic (.cmp x .Lt lo) .Or (.cmp x .Gt hi)

theorem not_between_complement (x lo hi : Expr) : (betweenTree x lo hi).negate = notBetweenTree x lo hi := rfl

/-- **`x [not] between lo and hi`** parses to `x >= lo and x <= hi` (resp. `x < lo or x > hi`) -/
theorem between_is_atom (bs : Bool) (x lo hi : E) (hx : x.WF bs) (hlo : lo.WF bs) (hhi : hi.WF bs)
    (hne : x.toks ≠ []) (hn : x.toks.head? ≠ some .not_) (o : Str) (hb : (lowerStr o == ofS "between") = true) (inf : Bool) :
    AtomCond bs (x.toks ++ (infixNotToks inf ++ .op o :: (lo.toks ++ .and_ :: hi.toks)))
      (if inf then notBetweenTree x.tree lo.tree hi.tree else betweenTree x.tree lo.tree hi.tree) := by
  intro k r hr
  have hM := (E.reads bs hlo).out (r := .and_ :: (hi.toks ++ r)) trivial
  have hR := (E.reads bs hhi).out (stopAdd_of_stopCond hr)
  refine out_iff.1 ?_
  rw [show (x.toks ++ (infixNotToks inf ++ .op o :: (lo.toks ++ .and_ :: hi.toks))) ++ r =
    x.toks ++ (infixNotToks inf ++ .op o :: (lo.toks ++ .and_ :: (hi.toks ++ r))) by simp,
    parseCond_at_op bs k x hx hne hn]
  simp only [condTail, hb, hM, hR, boolShorthand_logic]
  cases inf <;> cases parity k <;> rfl

end shape

/-- the `==` of `LogicalOp` is a derived `BEq` with no `LawfulBEq`: `between_inclusive` hands this to `simp` -/
theorem and_beq_and : (LogicalOp.And == LogicalOp.And) = true := rfl

/-- **BETWEEN is inclusive at both ends**: for an integer-valued left side `a` and integral bounds `n`, `m`,
    `x between lo and hi` holds of the entry exactly when n ≤ a ≤ m -/
theorem between_inclusive (cx : EvalCtx) (e : Entry) (cache : RxCache) (x lo hi : Expr)
    (fv vlo vhi : Variant) (m1 m2 m3 : Memo) (a n m : Int)
    (hx : columnValue cx (some e) [] x = .ok (fv, m1))
    (hlo : columnValue cx (some e) [] lo = .ok (vlo, m2))
    (hhi : columnValue cx (some e) [] hi = .ok (vhi, m3))
    (hty : fv.ty = .int) (ha : fv.toInt = a) (hfx : fv.exact = true)
    (hvl : vlo.exact = true) (hil : vlo.toFloat.fractNonZero = false) (hn : vlo.toInt = n)
    (hvh : vhi.exact = true) (hih : vhi.toFloat.fractNonZero = false) (hm : vhi.toInt = m) :
    conforms cx e cache (betweenTree x lo hi) = .ok (.val (decide (n ≤ a ∧ a ≤ m)), cache) := by
  have c1 := int_atom_spec cx.cfg.today cache fv vlo .Gte a n (decide (a ≥ n)) hty ha hfx hvl hil hn rfl
  have c2 := int_atom_spec cx.cfg.today cache fv vhi .Lte a m (decide (a ≤ m)) hty ha hfx hvh hih hm rfl
  simp only [betweenTree, conforms, compareAtom, patternOp, Bool.false_and, Bool.false_eq_true, if_false, hx, hlo, hhi, c1, c2]
  by_cases h1 : n ≤ a <;> by_cases h2 : a ≤ m <;> simp [h1, h2, CmpRes.and, and_beq_and]

/-- `column OP column` compares the two attributes of the same entry: both operands are evaluated on `e`,
    each with a fresh cache, and handed to the typed comparison -/
theorem column_vs_column (cx : EvalCtx) (e : Entry) (cache : RxCache) (f g : Field) (op : Op) (fv gv : Variant) (m1 m2 : Memo)
    (hf : columnValue cx (some e) [] (.field false f) = .ok (fv, m1))
    (hg : columnValue cx (some e) [] (.field false g) = .ok (gv, m2)) :
    conforms cx e cache (.cmp (.field false f) op (.field false g)) = compareAtom cx.cfg.today cache fv op gv :=
  C15.where_on_expression cx e cache _ _ op fv gv m1 m2 hf hg

/-- an atom whose operator is no pattern operator (or whose left value is text) is the typed comparison -/
theorem atom_is_typed_comparison (today : Int) (cache : RxCache) (fv v : Variant) (op : Op)
    (h : patternOp op = false ∨ fv.ty = .string) :
    compareAtom today cache fv op v = compareValues today cache fv op v := by
  unfold compareAtom
  rcases h with h | h
  · simp [h]
  · have hb : (fv.ty != VType.string) = false := by rw [h]; rfl
    simp [hb]

/-- LIKE / regex operators against a column of any type match the *text* of its value: the verdict is the
    one the same operator gives on the text column holding that text (D74 fix: they used to be false,
    and so were their negations) -/
theorem pattern_on_any_type (today : Int) (cache : RxCache) (fv v : Variant) (op : Op)
    (hp : patternOp op = true) (hex : fv.exact = true) :
    compareAtom today cache fv op v = compareValues today cache (.ofString fv.text) op (.ofString v.text) := by
  unfold compareAtom
  simp only [hp, hex, Bool.true_and, Bool.not_true, Bool.false_eq_true, if_false]
  -- a left value that is no text is compared as the text it prints; one that is text already is
  split
  · exact CompareL.compareValues_string today cache { fv with ty := .string } v op rfl
  · next h =>
    refine CompareL.compareValues_string today cache fv v op ?_
    cases hty : fv.ty <;> first | rfl | exact absurd (by rw [hty]; rfl) h

/-- the hypotheses of the theorems above can be met: `size` and `hardlinks` are well-formed operands, `>=` an operator -/
example :
    let sz : ParseL.E := .mk (.mk (.atom [.raw (ofS "size")] (.field false .Size)) .nil) .nil
    let hl : ParseL.E := .mk (.mk (.atom [.raw (ofS "hardlinks")] (.field false .Hardlinks)) .nil) .nil
    sz.WF true ∧ hl.WF true ∧ sz.toks ≠ [] ∧ sz.toks.head? ≠ some .not_ ∧ Op.ofStr? (ofS ">=") = some .Gte := by
  have a := C15.atom_column true (ofS "size") .Size (by decide +kernel)
  have b := C15.atom_column true (ofS "hardlinks") .Hardlinks (by decide +kernel)
  exact ⟨⟨⟨a, trivial⟩, trivial⟩, ⟨⟨b, trivial⟩, trivial⟩, by decide +kernel, by decide +kernel, by decide +kernel⟩

end Fsel.C02
