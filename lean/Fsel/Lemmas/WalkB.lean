/-
  The breadth-first search as a specification, before any walker: what listing one directory reports (`kidsEvents`),
  queues (`kidsItems`) and records (`topInos`, `afterKids`); the level order the queue drives, with the model's fuel
  (`bfsEvents`, `bfsFaults`); and where the inode numbers of a listed directory go (`listing_inos`), which keeps the
  numbers still queued fresh (`inv_step`).  `WalkLevel.lean` continues with the fuel-free level order; the walker itself
  is in `WalkLimB.lean`.
-/
import Fsel.Lemmas.Walk

namespace Fsel
namespace WalkB
open WalkL

/-- the entries of one directory, in `readdir` order -/
def kidsEvents (dirPath dirCanon : Str) (lvl : Nat) (ns : List Node) : List (Node × Entry × Nat) :=
  ns.map fun n => (n, fillEntry n.entry dirPath dirCanon n.entry.absPath, lvl)

/-- the sub-directories of one directory that get queued (in order), when the depth limit allows descending -/
def kidsItems (rp : RootParams) (dirPath dirCanon : Str) (lvl : Nat) : List Node → List QItem
  | [] => []
  | .dir de l kids :: ns =>
    (if rp.maxDepth == 0 || lvl < rp.maxDepth then
      [⟨kids, l, (fillEntry de dirPath dirCanon de.absPath).path, childCanon dirCanon de.name⟩] else []) ++
      kidsItems rp dirPath dirCanon lvl ns
  | .leaf _ _ :: ns => kidsItems rp dirPath dirCanon lvl ns

/-- inode numbers recorded while one directory is listed: its sub-directories and links -/
def topInos (rp : RootParams) (lvl : Nat) : List Node → List Nat
  | [] => []
  | n :: ns =>
    (if rp.maxDepth == 0 || lvl < rp.maxDepth then
      (match n with
       | .dir de _ _ => [de.ino]
       | .leaf le _ => if le.kind == 'l' then [le.ino] else []) else []) ++ topInos rp lvl ns

/-- the depth the walker recomputes for a queued directory (see the remark at `WalkLim.DfsForest`) -/
def itemDepth (rp : RootParams) (it : QItem) : Nat := calcDepth it.canon - rp.base + 1

/-- level-order traversal driven by the queue; `fuel` = number of queue items processed at most -/
def bfsEvents (rp : RootParams) : Nat → List QItem → List (Node × Entry × Nat)
  | 0, _ => []
  | _ + 1, [] => []
  | f + 1, it :: q =>
    if it.listable then
      kidsEvents it.path it.canon (itemDepth rp it) it.kids ++
        bfsEvents rp f (q ++ kidsItems rp it.path it.canon (itemDepth rp it) it.kids)
    else bfsEvents rp f q

/-- the directories whose listing fails, in queue order -/
def bfsFaults (rp : RootParams) : Nat → List QItem → List Str
  | 0, _ => []
  | _ + 1, [] => []
  | f + 1, it :: q =>
    if it.listable then bfsFaults rp f (q ++ kidsItems rp it.path it.canon (itemDepth rp it) it.kids)
    else it.path :: bfsFaults rp f q

/-- the traversal state after one directory has been listed breadth-first -/
def afterKids (rp : RootParams) (dp dc : Str) (lvl : Nat) (w : WalkSt) (ns : List Node) : WalkSt :=
  { w with visited := w.visited ++ topInos rp lvl ns, queue := w.queue ++ kidsItems rp dp dc lvl ns }

theorem kidsEvents_cons (dp dc : Str) (lvl : Nat) (n : Node) (ns : List Node) :
    kidsEvents dp dc lvl (n :: ns) = (n, fillEntry n.entry dp dc n.entry.absPath, lvl) :: kidsEvents dp dc lvl ns := rfl

theorem okToVisit_fresh' (w : WalkSt) (e : Entry) (h : e.ino ∉ w.visited) :
    okToVisit w e = (e.kind != 'l', { w with visited := w.visited ++ [e.ino] }) := okToVisit_fresh w e h

theorem topInos_cons (rp : RootParams) (lvl : Nat) (n : Node) (ns : List Node) :
    topInos rp lvl (n :: ns) = topInos rp lvl [n] ++ topInos rp lvl ns := by simp [topInos]

theorem kidsItems_cons (rp : RootParams) (dp dc : Str) (lvl : Nat) (n : Node) (ns : List Node) :
    kidsItems rp dp dc lvl (n :: ns) = kidsItems rp dp dc lvl [n] ++ kidsItems rp dp dc lvl ns := by
  cases n <;> simp [kidsItems]

theorem afterKids_cons (rp : RootParams) (dp dc : Str) (lvl : Nat) (w : WalkSt) (n : Node) (ns : List Node) :
    afterKids rp dp dc lvl w (n :: ns) = afterKids rp dp dc lvl (afterKids rp dp dc lvl w [n]) ns := by
  simp only [afterKids, topInos_cons rp lvl n ns, kidsItems_cons rp dp dc lvl n ns, List.append_assoc]

/-! ### the inode numbers of the queue -/

/-- all inode numbers the queued directories can still record -/
def qInos (q : List QItem) : List Nat := q.flatMap fun it => inodesL it.kids

/-- the trees queued have single-component names (`goodL`) -/
def QGood (q : List QItem) : Prop := ∀ it ∈ q, goodL it.kids

theorem qInos_nil : qInos [] = [] := rfl

theorem qInos_append (a b : List QItem) : qInos (a ++ b) = qInos a ++ qInos b := by simp [qInos]

theorem qInos_cons (it : QItem) (q : List QItem) : qInos (it :: q) = inodesL it.kids ++ qInos q := by simp [qInos]

/-- where the inode numbers of a directory's entries go when it is listed: those of the entries themselves are
    recorded, those inside the sub-directories are queued with them, and below the depth limit (`rest`) neither -/
theorem listing_inos (rp : RootParams) (dp dc : Str) (lvl : Nat) : ∀ ns : List Node,
    ∃ rest, (inodesL ns).Perm (topInos rp lvl ns ++ (qInos (kidsItems rp dp dc lvl ns) ++ rest))
  | [] => ⟨[], .refl _⟩
  | n :: ns => by
    obtain ⟨rest, ih⟩ := listing_inos rp dp dc lvl ns
    by_cases hmax : (rp.maxDepth == 0 || decide (lvl < rp.maxDepth)) = true
    · refine ⟨rest, List.perm_iff_count.mpr fun i => ?_⟩
      have hi := ih.count_eq i
      cases n with
      | dir de l kids =>
        simp only [inodesL, inodesN, topInos, kidsItems, hmax, if_true, qInos_append, qInos_cons, qInos_nil,
          List.count_append, List.count_cons, List.count_nil] at hi ⊢
        omega
      | leaf le z =>
        simp only [inodesL, inodesN, topInos, kidsItems, hmax, if_true, List.count_append] at hi ⊢
        omega
    · refine ⟨inodesN n ++ rest, List.perm_iff_count.mpr fun i => ?_⟩
      have hi := ih.count_eq i
      cases n with
      | dir de l kids =>
        simp only [inodesL, topInos, kidsItems, hmax, Bool.false_eq_true, if_false, List.nil_append, List.count_append] at hi ⊢
        omega
      | leaf le z =>
        simp only [inodesL, topInos, kidsItems, hmax, Bool.false_eq_true, if_false, List.nil_append, List.count_append] at hi ⊢
        omega

theorem mem_kidsItems {rp : RootParams} {dp dc : Str} {lvl : Nat} {x : QItem} : ∀ {ns : List Node}, goodL ns →
    x ∈ kidsItems rp dp dc lvl ns → ∃ de l kids, goodN (.dir de l kids) ∧
      x = ⟨kids, l, (fillEntry de dp dc de.absPath).path, childCanon dc de.name⟩
  | [], _, hx => by simp [kidsItems] at hx
  | .leaf _ _ :: _, hg, hx => mem_kidsItems hg.2 hx
  | .dir de l kids :: _, hg, hx => by
    rcases List.mem_append.mp hx with h | h
    · split at h
      · exact ⟨de, l, kids, hg.1, List.mem_singleton.mp h⟩
      · simp at h
    · exact mem_kidsItems hg.2 h

theorem items_good (rp : RootParams) (dp dc : Str) (lvl : Nat) (ns : List Node) (hg : goodL ns) :
    QGood (kidsItems rp dp dc lvl ns) := fun _ hx => by
  obtain ⟨de, l, kids, hd, rfl⟩ := mem_kidsItems hg hx
  exact hd.2.2

/-- the freshness invariant of the queue is preserved by listing one directory: the numbers of its entries move from
    "queued" to "recorded", the deeper ones stay queued -/
theorem inv_step (rp : RootParams) (dp dc : Str) (lvl : Nat) (ns : List Node) (q : List QItem) (vis : List Nat)
    (h : Fresh vis (inodesL ns ++ qInos q)) :
    Fresh vis (topInos rp lvl ns) ∧ Fresh (vis ++ topInos rp lvl ns) (qInos (q ++ kidsItems rp dp dc lvl ns)) := by
  obtain ⟨rest, hp⟩ := listing_inos rp dp dc lvl ns
  have h' : Fresh vis (topInos rp lvl ns ++ (qInos (q ++ kidsItems rp dp dc lvl ns) ++ rest)) :=
    h.perm (List.perm_iff_count.mpr fun i => by
      have := hp.count_eq i
      simp only [qInos_append, List.count_append] at this ⊢
      omega)
  exact ⟨h'.move.1, h'.move.2.append.1⟩

theorem step_sub (rp : RootParams) (dp dc : Str) (lvl : Nat) (ns : List Node) (q : List QItem) (vis : List Nat) (i : Nat)
    (h : i ∈ vis ++ topInos rp lvl ns ∨ i ∈ qInos (q ++ kidsItems rp dp dc lvl ns)) :
    i ∈ vis ∨ i ∈ inodesL ns ++ qInos q := by
  obtain ⟨rest, hp⟩ := listing_inos rp dp dc lvl ns
  simp only [qInos_append, List.mem_append, hp.mem_iff] at h ⊢
  rcases h with (h | h) | h | h <;> simp [h]

end WalkB
end Fsel
