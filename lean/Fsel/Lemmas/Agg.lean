/-
  GROUP BY in closed form: `partitionRows` (a fold that adds one row at a time) returns `fibres`, one group per key
  in first-occurrence order, each holding the rows of its key in arrival order; so the groups together are a
  permutation of the rows.  Only the partition: what the aggregate functions compute is in `Props/C07.lean`.
-/
import Fsel.Model.Agg
import Fsel.Lemmas.List

namespace Fsel
namespace AggL
open ListL

/-! ### the fibres of a key function -/

variable {α κ : Type} [BEq κ]

/-- `rs` sorted into groups by `f`: one group per key in first-occurrence order, each the fibre of its key -/
def fibres (f : α → κ) (rs : List α) : List (κ × List α) :=
  ((rs.map f).eraseDups).map fun k => (k, rs.filter fun r => f r == k)

theorem fibres_keys (f : α → κ) (rs : List α) : (fibres f rs).map (·.1) = (rs.map f).eraseDups := by
  rw [fibres, List.map_map]
  exact List.map_id _

variable [LawfulBEq κ]

theorem mem_fibres {f : α → κ} {rs : List α} {g : κ × List α} :
    g ∈ fibres f rs ↔ g.1 ∈ rs.map f ∧ g.2 = rs.filter fun r => f r == g.1 := by
  rw [fibres, List.mem_map]
  constructor
  · rintro ⟨k, hk, rfl⟩
    exact ⟨List.mem_eraseDups.mp hk, rfl⟩
  · rintro ⟨hk, hg⟩
    exact ⟨g.1, List.mem_eraseDups.mpr hk, Prod.ext rfl hg.symm⟩

theorem perm_fibres (f : α → κ) :
    ∀ ks : List κ, ks.Nodup → ∀ rows : List α, (∀ r ∈ rows, f r ∈ ks) →
      (ks.map fun k => rows.filter fun r => f r == k).flatten.Perm rows
  | [], _, rows, hc => by
    have : rows = [] := List.eq_nil_iff_forall_not_mem.mpr fun r hr => by simpa using hc r hr
    subst this; exact .nil
  | k :: ks, hnd, rows, hc => by
    have ⟨hk, hnd'⟩ := List.nodup_cons.mp hnd
    -- split off the fibre of `k`; the other rows are covered by `ks`
    have ih := perm_fibres f ks hnd' (rows.filter fun r => !(f r == k)) fun r hr => by
      have ⟨h1, h2⟩ := List.mem_filter.mp hr
      rcases List.mem_cons.mp (hc r h1) with e | e
      · simp [e] at h2
      · exact e
    -- and among them the fibres of `ks` are what they are among all rows
    have e : (ks.map fun k' => (rows.filter fun r => !(f r == k)).filter fun r => f r == k') =
        ks.map fun k' => rows.filter fun r => f r == k' := by
      apply List.map_congr_left
      intro k' hk'
      rw [List.filter_filter]
      apply List.filter_congr
      intro r _
      cases h : f r == k'
      · rfl
      · have : (f r == k) = false := beq_false_of_ne fun e => hk (e ▸ eq_of_beq h ▸ hk')
        rw [this]; rfl
    rw [e] at ih
    exact (ih.append_left _).trans (List.filter_append_perm _ rows)

theorem fibres_perm (f : α → κ) (rs : List α) : ((fibres f rs).map (·.2)).flatten.Perm rs := by
  rw [fibres, List.map_map]
  exact perm_fibres f _ (nodup_eraseDups _) rs fun r hr => List.mem_eraseDups.mpr (List.mem_map_of_mem hr)

/-- One more row `r`: it joins the fibre of its key and no other (`hf`), and its key is appended to the keys unless
    it is among them (`eraseDups_concat`), the fibre of a new key being `[r]`. -/
theorem fibres_concat (f : α → κ) (rs : List α) (r : α) :
    fibres f (rs ++ [r]) =
      if (fibres f rs).any (·.1 == f r) then (fibres f rs).map fun g => if g.1 == f r then (g.1, g.2 ++ [r]) else g
      else fibres f rs ++ [(f r, [r])] := by
  have hf : ∀ k, (rs ++ [r]).filter (fun r' => f r' == k) =
      rs.filter (fun r' => f r' == k) ++ if k == f r then [r] else [] := by
    intro k
    rw [List.filter_append, BEq.comm (a := k)]
    cases e : f r == k <;> simp [e]
  have hany : (fibres f rs).any (·.1 == f r) = true ↔ f r ∈ rs.map f := by
    rw [← List.mem_eraseDups, ← fibres_keys, List.any_eq_true, List.mem_map]
    exact exists_congr fun g => and_congr_right fun _ => beq_iff_eq
  rw [fibres, List.map_append, List.map_cons, List.map_nil, eraseDups_concat]
  by_cases h : f r ∈ rs.map f
  · rw [if_pos (hany.mpr h), if_pos h, fibres, List.map_map]
    apply List.map_congr_left
    intro k _
    dsimp only [Function.comp]
    rw [hf]
    split <;> simp
  · rw [if_neg (mt hany.mp h), if_neg h, List.map_append, fibres]
    congr 1
    · apply List.map_congr_left
      intro k hk
      have : ¬ (k == f r) = true := fun e => h (eq_of_beq e ▸ List.mem_eraseDups.mp hk)
      rw [hf, if_neg this, List.append_nil]
    · have e1 : rs.filter (fun r' => f r' == f r) = [] :=
        List.filter_eq_nil_iff.mpr fun r' hr' hk => h (List.mem_map.mpr ⟨r', hr', eq_of_beq hk⟩)
      rw [List.map_cons, List.map_nil, hf, e1, if_pos (beq_self_eq_true _), List.nil_append]

/-! ### the partition -/

theorem partitionRows_eq (keys : List Str) (rows : List Memo) :
    partitionRows keys rows = fibres (keyOf keys) rows := by
  have : ∀ rows rs, rows.foldl (addRow keys) (fibres (keyOf keys) rs) = fibres (keyOf keys) (rs ++ rows) := by
    intro rows
    induction rows with
    | nil => intro rs; simp
    -- `addRow` is the right side of `fibres_concat` for `keyOf keys`
    | cons r rows ih => intro rs; rw [List.foldl_cons, addRow, ← fibres_concat, ih, List.append_assoc]; rfl
  exact (this rows []).trans (by simp)

/-- GROUP BY loses or invents no row -/
theorem partitionRows_perm (keys : List Str) (rows : List Memo) :
    ((partitionRows keys rows).map (·.2)).flatten.Perm rows := by
  rw [partitionRows_eq]
  exact fibres_perm (keyOf keys) rows

theorem groups_add_up (w : Memo → Nat) (keys : List Str) (rows : List Memo) :
    ((partitionRows keys rows).map fun g => (g.2.map w).sum).sum = (rows.map w).sum := by
  rw [← ((partitionRows_perm keys rows).map w).sum_nat, ← sum_map_flatten, List.map_map]
  rfl

end AggL
end Fsel
