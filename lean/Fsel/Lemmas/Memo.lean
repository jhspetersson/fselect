/-
  Locality of `get_column_expr_value`: the value of an expression depends on the per-row memo only
  through the keys the expression itself can touch (the display texts of its sub-expressions), and it
  leaves every other key as it was.  Both come from one induction over the evaluator
  (`columnValue_param`): it preserves any relation on memos that reads and writes at those keys respect.
-/
import Fsel.Model.Eval
import Fsel.Lemmas.Text

namespace Fsel
namespace MemoL

/-- the memo behaves like a finite map -/
theorem get_insert (m : Memo) (k v k' : Str) :
    (m.insert k v).get? k' = if k' = k then some v else m.get? k' := by
  unfold Memo.insert Memo.get?
  split
  · next h =>
    rw [lookup_map _ (fun (a, b) => by simp only; split <;> rfl)]
    by_cases hk : k' = k
    · subst hk
      obtain ⟨x, hx⟩ := Option.isSome_iff_exists.1 h
      simp [hx]
    · simp [hk]
  · next h =>
    rw [lookup_append]
    by_cases hk : k' = k
    · subst hk; simp [lookup, Option.not_isSome_iff_eq_none.1 h]
    · simp [lookup, hk, Ne.symm hk]

-- the memo keys an expression can read or write; a column has two: its own display text, and the bare column name
-- `f.display`, which is what is read when there is no entry (`e? = none`: the rows of an aggregate result)
mutual
def keysOf : Expr → List Str
  | .field m f => [(Expr.field m f).display, f.display]
  | .val _ _ => []
  | .func0 m f => [(Expr.func0 m f).display]
  | .func m f l args => (Expr.func m f l args).display :: (keysOf l ++ keysOfList args)
  | .arith l op r => (Expr.arith l op r).display :: (keysOf l ++ keysOf r)
  | .cmp l o r => (Expr.cmp l o r).display :: keysOf l
  | .logic l o r => (Expr.logic l o r).display :: keysOf l
def keysOfList : List Expr → List Str
  | [] => []
  | a :: as => keysOf a ++ keysOfList as
end

/-- two memos agree on a set of keys -/
def Agree (S : Str → Prop) (m m' : Memo) : Prop := ∀ k, S k → m.get? k = m'.get? k

theorem agree_insert (S : Str → Prop) (m m' : Memo) (k v : Str) (h : Agree S m m') :
    Agree S (m.insert k v) (m'.insert k v) := by
  intro k' hk'
  rw [get_insert, get_insert]
  split
  · rfl
  · exact h k' hk'

/-- Outcomes of two runs related by a relation `I` on memos: the same error, or the same result around
    `I`-related memos.  `pack` says where the memo sits in the result. -/
inductive Rel {α β : Type} (I : Memo → Memo → Prop) (pack : α → Memo → β) : EM β → EM β → Prop
  | ok (a : α) (m m' : Memo) : I m m' → Rel I pack (.ok (pack a m)) (.ok (pack a m'))
  | error (e : EvalErr) : Rel I pack (.error e) (.error e)

/-- where `argValues` keeps its memo -/
abbrev pack3 (p : List Str × Bool) (m : Memo) : List Str × Memo × Bool := (p.1, m, p.2)

/-- two outcomes of `argValues`: the same error, or the same values and flag around memos that agree on `S` -/
def RelL (S : Str → Prop) : EM (List Str × Memo × Bool) → EM (List Str × Memo × Bool) → Prop
  | .ok (v, m, b), .ok (v', m', b') => v = v' ∧ b = b' ∧ Agree S m m'
  | .error a, .error b => a = b
  | _, _ => False

section
variable {α β : Type} {I : Memo → Memo → Prop} {pack : α → Memo → β}

/-- related outcomes, continued in related ways, stay related -/
theorem Rel.bind {a b : EM (Variant × Memo)} {k : Variant → Memo → EM β} :
    Rel I Prod.mk a b → (∀ v m m', I m m' → Rel I pack (k v m) (k v m')) →
    Rel I pack (match a with | .error er => .error er | .ok (v, m) => k v m)
      (match b with | .error er => .error er | .ok (v, m) => k v m) := by
  intro h hk
  cases h with
  | ok v m m' hI => exact hk v m m' hI
  | error e => exact .error e

theorem Rel.bind3 {a b : EM (List Str × Memo × Bool)} {k : List Str → Memo → Bool → EM β} :
    Rel I pack3 a b → (∀ v x m m', I m m' → Rel I pack (k v m x) (k v m' x)) →
    Rel I pack (match a with | .error er => .error er | .ok (v, m, x) => k v m x)
      (match b with | .error er => .error er | .ok (v, m, x) => k v m x) := by
  intro h hk
  cases h with
  | ok p m m' hI => exact hk p.1 p.2 m m' hI
  | error e => exact .error e
end

/-- `I` is kept by the memo operations at keys in `T`: a read there sees the same on both sides, a write there of
    the same value keeps `I` -/
structure Respects (I : Memo → Memo → Prop) (T : Str → Prop) : Prop where
  read : ∀ {m m'} k, T k → I m m' → m.get? k = m'.get? k
  write : ∀ {m m'} k v, T k → I m m' → I (m.insert k v) (m'.insert k v)

section param
variable {I : Memo → Memo → Prop} {T : Str → Prop} (cx : EvalCtx) (e? : Option Entry)

theorem Rel.withMemo {m m' : Memo} {key : Str} {c c' : Unit → EM (Variant × Memo)}
    (hkey : m.get? key = m'.get? key) (h : I m m') (hc : Rel I Prod.mk (c ()) (c' ())) :
    Rel I Prod.mk (withMemo m key c) (withMemo m' key c') := by
  unfold Fsel.withMemo
  rw [← hkey]
  cases m.get? key with
  | some v => exact .ok _ _ _ h
  | none => exact hc

theorem applyFn_param (hI : Respects I T) (f : Function) (key : Str) (hkey : T key) (av : Variant) (avs : List Str) (exs : Bool)
    (m m' : Memo) (h : I m m') :
    Rel I Prod.mk (applyFn cx e? f key av avs exs m) (applyFn cx e? f key av avs exs m') := by
  unfold applyFn
  cases fnValue cx e? f av avs with
  | error er => exact .error er
  | ok v => exact .ok _ _ _ (hI.write _ _ hkey h)

mutual
theorem columnValue_param (hI : Respects I T) : ∀ (x : Expr) (m m' : Memo), (∀ k ∈ keysOf x, T k) → I m m' →
    Rel I Prod.mk (columnValue cx e? m x) (columnValue cx e? m' x)
  | .val mn v, m, m', _, h => by
    unfold columnValue
    exact .ok _ _ _ h
  | .field mn f, m, m', hk, h => by
    have hkey := hk _ (.head _)
    unfold columnValue
    refine Rel.withMemo (hI.read _ hkey h) h ?_
    cases e? with
    | some e =>
      simp only
      cases fieldValue cx.cfg e f with
      | ok v => exact .ok _ _ _ (hI.write _ _ hkey h)
      | error er => exact .error er
    | none =>
      simp only
      rw [← hI.read _ (hk _ (.tail _ (.head _))) h]
      cases m.get? f.display <;> exact .ok _ _ _ h
  | .func0 mn f, m, m', hk, h => by
    have hkey := hk _ (.head _)
    unfold columnValue
    refine Rel.withMemo (hI.read _ hkey h) h ?_
    simp only
    by_cases hagg : f.isAggregate = true
    · simp only [hagg, if_true, aggValue]
      exact .ok _ _ _ (hI.write _ _ hkey h)
    · simp only [hagg, Bool.false_eq_true, if_false]
      exact (applyFn_param cx e? hI f _ hkey _ _ _ m m' h).bind fun v a a' ha => .ok _ _ _ (hI.write _ _ hkey ha)
  | .func mn f l args, m, m', hk, h => by
    have hkey := hk _ (.head _)
    unfold columnValue
    refine Rel.withMemo (hI.read _ hkey h) h ?_
    simp only
    refine (columnValue_param hI l m m' (fun k hk' => hk k (.tail _ (List.mem_append_left _ hk'))) h).bind fun av m1 m1' h1 => ?_
    by_cases hagg : f.isAggregate = true
    · simp only [hagg, if_true, aggValue]
      exact .ok _ _ _ (hI.write _ _ hkey h1)
    · simp only [hagg, Bool.false_eq_true, if_false]
      refine Rel.bind ?_ fun v a a' ha => .ok _ _ _ (hI.write _ _ hkey ha)
      refine (argValues_param hI args m1 m1' (fun k hk' => hk k (.tail _ (List.mem_append_right _ hk'))) h1).bind3 fun avs exs m2 m2' h2 => ?_
      exact applyFn_param cx e? hI f _ hkey av avs exs m2 m2' h2
  | .arith l op r, m, m', hk, h => by
    have hkey := hk _ (.head _)
    unfold columnValue
    refine Rel.withMemo (hI.read _ hkey h) h ?_
    simp only
    refine (columnValue_param hI l m m' (fun k hk' => hk k (.tail _ (List.mem_append_left _ hk'))) h).bind fun lv m1 m1' h1 => ?_
    refine (columnValue_param hI r m1 m1' (fun k hk' => hk k (.tail _ (List.mem_append_right _ hk'))) h1).bind fun rv m2 m2' h2 => ?_
    exact .ok _ _ _ (hI.write _ _ hkey h2)
  | .cmp l o r, m, m', hk, h | .logic l o r, m, m', hk, h => by
    unfold columnValue
    exact Rel.withMemo (hI.read _ (hk _ (.head _)) h) h (columnValue_param hI l m m' (fun k hk' => hk k (.tail _ hk')) h)

theorem argValues_param (hI : Respects I T) : ∀ (xs : List Expr) (m m' : Memo), (∀ k ∈ keysOfList xs, T k) → I m m' →
    Rel I pack3 (argValues cx e? m xs) (argValues cx e? m' xs)
  | [], m, m', _, h => by
    unfold argValues
    exact .ok ([], true) _ _ h
  | a :: as, m, m', hk, h => by
    unfold argValues
    refine (columnValue_param hI a m m' (fun k hk' => hk k (List.mem_append_left _ hk')) h).bind fun v m1 m1' h1 => ?_
    refine (argValues_param hI as m1 m1' (fun k hk' => hk k (List.mem_append_right _ hk')) h1).bind3 fun vs ex m2 m2' h2 => ?_
    exact .ok (v.text :: vs, ex && v.exact) _ _ h2
end
end param

theorem Rel.map_fst {I : Memo → Memo → Prop} {a b : EM (Variant × Memo)} (h : Rel I Prod.mk a b) :
    a.map (·.1) = b.map (·.1) := by
  cases h <;> rfl

theorem agree_respects (S : Str → Prop) : Respects (Agree S) S :=
  ⟨fun k hk h => h k hk, fun k v _ h => agree_insert S _ _ k v h⟩

theorem columnValue_local (S : Str → Prop) (cx : EvalCtx) (e? : Option Entry) (x : Expr) (m m' : Memo)
    (hk : ∀ k ∈ keysOf x, S k) (h : Agree S m m') :
    Rel (Agree S) Prod.mk (columnValue cx e? m x) (columnValue cx e? m' x) :=
  columnValue_param cx e? (agree_respects S) x m m' hk h

theorem argValues_local (S : Str → Prop) (cx : EvalCtx) (e? : Option Entry) :
    ∀ (xs : List Expr) (m m' : Memo), (∀ k ∈ keysOfList xs, S k) → Agree S m m' →
      RelL S (argValues cx e? m xs) (argValues cx e? m' xs) := by
  intro xs m m' hk h
  have : ∀ a b, Rel (Agree S) pack3 a b → RelL S a b := by
    intro a b r
    cases r with
    | ok p a a' ha => exact ⟨rfl, rfl, ha⟩
    | error e => exact rfl
  exact this _ _ (argValues_param cx e? (agree_respects S) xs m m' hk h)

/-- an evaluation started at `m` leaves every key outside `K` as it was -/
def Frame (K : Str → Prop) (m : Memo) (r : EM (Variant × Memo)) : Prop :=
  ∀ v m1, r = .ok (v, m1) → ∀ k, ¬ K k → m1.get? k = m.get? k

/-- the same for `argValues` -/
def FrameL (K : Str → Prop) (m : Memo) (r : EM (List Str × Memo × Bool)) : Prop :=
  ∀ v m1 b, r = .ok (v, m1, b) → ∀ k, ¬ K k → m1.get? k = m.get? k

theorem frame_mono (K K' : Str → Prop) (m : Memo) (r : EM (Variant × Memo)) (h : ∀ k, K k → K' k) : Frame K m r → Frame K' m r := by
  intro hf v m1 hr k hk
  exact hf v m1 hr k (fun hk' => hk (h k hk'))

/-- one run against itself, remembering that nothing outside `K` has moved since `m0` -/
theorem frame_respects (K : Str → Prop) (m0 : Memo) :
    Respects (fun a b => a = b ∧ ∀ k, ¬ K k → a.get? k = m0.get? k) K :=
  ⟨fun _ _ h => h.1 ▸ rfl, fun k v hk h => ⟨h.1 ▸ rfl, fun k' hk' => by
    rw [get_insert, if_neg (fun e : k' = k => hk' (e ▸ hk))]; exact h.2 k' hk'⟩⟩

theorem columnValue_frame (K : Str → Prop) (cx : EvalCtx) (e? : Option Entry) (x : Expr) (m : Memo)
    (hk : ∀ k ∈ keysOf x, K k) : Frame K m (columnValue cx e? m x) := by
  intro v m1 hv
  have := columnValue_param cx e? (frame_respects K m) x m m hk ⟨rfl, fun _ _ => rfl⟩
  rw [hv] at this
  cases this with
  | ok _ _ _ h => exact h.2

theorem argValues_frame (K : Str → Prop) (cx : EvalCtx) (e? : Option Entry) :
    ∀ (xs : List Expr) (m : Memo), (∀ k ∈ keysOfList xs, K k) → FrameL K m (argValues cx e? m xs) := by
  intro xs m hk v m1 b hv
  have := argValues_param cx e? (frame_respects K m) xs m m hk ⟨rfl, fun _ _ => rfl⟩
  rw [hv] at this
  cases this with
  | ok _ _ _ h => exact h.2

end MemoL
end Fsel
