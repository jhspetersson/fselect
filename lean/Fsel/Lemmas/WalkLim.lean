/-
  The streamed LIMIT.  `check_file` folded over the entries up to the limit (`foldLim` over `checksL`), which is
  `foldReport` when no limit is active; what it means for a run of a walker to follow such a fold (`Follows`, with `seq`,
  `imp`, `reached`).  Then streamed LIMIT (a query that is neither ordered nor aggregated) as a fact about the fold alone:
  the fold that stops at the limit writes the first min(N, M) chunks of what the same fold writes without a limit, in the
  same order (`lim_is_prefix`); hence the same of any two runs that follow the two folds (`limited_is_prefix`).
-/
import Fsel.Lemmas.Walk

namespace Fsel
namespace WalkLim
open WalkL

/-- `WalkAfter.sub` alone, for statements that say nothing else of the traversal state -/
def WalkSub (w w' : WalkSt) (ins : List Nat) : Prop := ∀ i, i ∈ w'.visited → i ∈ w.visited ∨ i ∈ ins

/-! ### the fold up to the streamed limit -/

/-- the `check_file` calls one event gives rise to: the entry itself (when inside the mindepth window),
    then — for a zip archive searched with `archives` — its members in table order -/
def checksOf (p : Plan) (rp : RootParams) (ev : Node × Entry × Nat) : List Entry :=
  if rp.minDepth == 0 || ev.2.2 ≥ rp.minDepth then
    ev.2.1 :: (match ev.1 with
      | .leaf _ (some ms) =>
        if rp.archives && hasExtension ev.2.1.path p.cfg.zipExts then ms.map (fun a => { ev.2.1 with arc := some a }) else []
      | _ => [])
  else []

def checksL (p : Plan) (rp : RootParams) (evs : List (Node × Entry × Nat)) : List Entry :=
  evs.flatMap (checksOf p rp)

theorem checksL_nil (p : Plan) (rp : RootParams) : checksL p rp [] = [] := rfl

theorem checksL_cons (p : Plan) (rp : RootParams) (ev : Node × Entry × Nat) (evs : List (Node × Entry × Nat)) :
    checksL p rp (ev :: evs) = checksOf p rp ev ++ checksL p rp evs := by simp [checksL]

theorem checksL_append (p : Plan) (rp : RootParams) (a b : List (Node × Entry × Nat)) :
    checksL p rp (a ++ b) = checksL p rp a ++ checksL p rp b := by simp [checksL]

/-- `check_file` over a list of entries, stopping as soon as the streamed limit is reached -/
def foldLim (p : Plan) : ResSt → List Entry → Except Abort ResSt
  | rs, [] => .ok rs
  | rs, e :: es =>
    if limitReached p rs then .ok rs
    else match checkFile p rs e with
      | .error a => .error a
      | .ok rs' => foldLim p rs' es

theorem foldLim_reached (p : Plan) (rs : ResSt) (h : limitReached p rs = true) (es : List Entry) :
    foldLim p rs es = .ok rs := by
  cases es with
  | nil => rfl
  | cons e es => simp [foldLim, h]

theorem foldLim_append (p : Plan) (rs : ResSt) (a b : List Entry) :
    foldLim p rs (a ++ b) =
      match foldLim p rs a with
      | .error x => .error x
      | .ok rs' => foldLim p rs' b := by
  induction a generalizing rs with
  | nil => rfl
  | cons e a ih =>
    simp only [List.cons_append, foldLim]
    by_cases hl : limitReached p rs = true
    · simp only [hl, if_true]
      exact (foldLim_reached p rs hl b).symm
    · simp only [hl, Bool.false_eq_true, if_false]
      cases checkFile p rs e with
      | error x => rfl
      | ok rs' => exact ih rs'

theorem checkMembers_eq (p : Plan) (e : Entry) (ms : List ArcInfo) (rs : ResSt) :
    checkMembers p rs e ms = foldLim p rs (ms.map fun a => { e with arc := some a }) := by
  induction ms generalizing rs with
  | nil => rfl
  | cons a as ih =>
    simp only [checkMembers, List.map_cons, foldLim]
    split
    · rfl
    · cases checkFile p rs { e with arc := some a } with
      | error x => rfl
      | ok rs' => exact ih rs'

theorem reportEntry_eq (p : Plan) (rp : RootParams) (lvl : Nat) (n : Node) (e : Entry) (rs : ResSt)
    (h : limitReached p rs = false) :
    reportEntry p rp lvl n e rs = foldLim p rs (checksOf p rp (n, e, lvl)) := by
  unfold reportEntry checksOf
  by_cases hm : (rp.minDepth == 0 || decide (lvl ≥ rp.minDepth)) = true
  · simp only [hm, if_true, foldLim, h, Bool.false_eq_true, if_false]
    cases checkFile p rs e with
    | error a => rfl
    | ok s =>
      cases n with
      | dir de l kids => simp [foldLim]
      | leaf le z =>
        cases z with
        | none => simp [foldLim]
        | some ms =>
          simp only
          split
          · exact checkMembers_eq p e ms s
          · simp [foldLim]
  · simp only [hm, Bool.false_eq_true, if_false, foldLim]

theorem foldReport_eq_foldLim (p : Plan) (rp : RootParams) (hl : NoLimit p) :
    ∀ (rs : ResSt) (evs : List (Node × Entry × Nat)), foldReport p rp rs evs = foldLim p rs (checksL p rp evs)
  | _, [] => rfl
  | rs, (n, e, lvl) :: evs => by
    rw [checksL_cons, foldLim_append, ← reportEntry_eq p rp lvl n e rs (noLimit_false p hl rs), foldReport]
    cases reportEntry p rp lvl n e rs with
    | error a => rfl
    | ok rs' => exact foldReport_eq_foldLim p rp hl rs' evs

theorem foldLim_unreached {p : Plan} {rs rs' : ResSt} {es : List Entry} (h : foldLim p rs es = .ok rs')
    (hu : limitReached p rs' = false) : limitReached p rs = false := by
  cases hr : limitReached p rs with
  | false => rfl
  | true => rw [foldLim_reached p rs hr] at h; cases h; exact hr ▸ hu

/-! ### a run that follows a fold -/

/-- `run` follows the fold `spec`: it fails as `spec` fails; where `spec` yields `rs'`, `run` yields `rs'` together
    with a traversal state satisfying `P rs'`.  A statement that spells this match out is the definition unfolded, so
    the lemmas `Follows.*` apply to it as they stand. -/
def Follows (spec : Except Abort ResSt) (run : Except Abort WSt) (P : ResSt → WalkSt → Prop) : Prop :=
  match spec with
  | .error a => run = .error a
  | .ok rs' => ∃ w', run = .ok { res := rs', walk := w' } ∧ P rs' w'

variable {spec : Except Abort ResSt} {run : Except Abort WSt} {P Q : ResSt → WalkSt → Prop}

theorem Follows.ok {r : ResSt} (h : Follows spec run P) (hs : spec = .ok r) : ∃ w', run = .ok { res := r, walk := w' } ∧ P r w' := by
  subst hs
  exact h

theorem Follows.error {a : Abort} (h : Follows spec run P) (hs : spec = .error a) : run = .error a := by
  subst hs
  exact h

theorem Follows.seq {p : Plan} {rs : ResSt} {a b : List Entry} {k : WSt → Except Abort WSt} (h1 : Follows (foldLim p rs a) run P)
    (h2 : ∀ r1 w1, foldLim p rs a = .ok r1 → P r1 w1 → Follows (foldLim p r1 b) (k { res := r1, walk := w1 }) Q) :
    Follows (foldLim p rs (a ++ b)) (match (generalizing := false) run with | .error e => .error e | .ok s => k s) Q := by
  rw [foldLim_append]
  cases hf : foldLim p rs a with
  | error e =>
    rw [h1.error hf]
    rfl
  | ok r1 =>
    obtain ⟨w1, hr, hp⟩ := h1.ok hf
    rw [hr]
    exact h2 r1 w1 hf hp

theorem Follows.imp (h : Follows spec run P) (hi : ∀ r w, spec = .ok r → P r w → Q r w) : Follows spec run Q := by
  unfold Follows at h ⊢
  cases spec with
  | error a => exact h
  | ok r => obtain ⟨w, h1, h2⟩ := h; exact ⟨w, h1, hi r w rfl h2⟩

/-- why the postconditions under any plan are guarded by `limitReached p rs' = false →`: after the limit nothing is
    promised of the traversal state, and a run that merely returns follows the fold -/
theorem Follows.reached {p : Plan} {rs : ResSt} {es : List Entry} (hr : limitReached p rs = true) (h : ∃ w', run = .ok { res := rs, walk := w' }) :
    Follows (foldLim p rs es) run fun rs' w' => limitReached p rs' = false → Q rs' w' := by
  rw [foldLim_reached p rs hr]
  obtain ⟨w', hw'⟩ := h
  exact ⟨w', hw', fun h => by rw [hr] at h; contradiction⟩

/-- `Follows.imp` for a statement that spells the match out with a success clause not of the form
    `∃ w', run = .ok _ ∧ _` (some theorems of `Props/` do) -/
theorem match_imp {x : Except Abort ResSt} {E : Abort → Prop} {A B : ResSt → Prop}
    (h : match x with | .error a => E a | .ok r => A r) (hi : ∀ r, x = .ok r → A r → B r) :
    match (generalizing := false) x with | .error a => E a | .ok r => B r := by
  cases x with
  | error a => exact h
  | ok r => exact hi r rfl h

/-! ### the limited fold is a prefix of the unlimited one -/

/-- one `check_file` of a streamed query either finds nothing (only the regex cache may change) or finds one row and
    writes one chunk.  Every successful exit of `checkFile` is a record update of one of these two kinds, so after
    splitting all its branches each goal closes by reading the update off. -/
theorem checkFile_step (p : Plan) (hb : p.q.isBuffered = false) (rs rs' : ResSt) (e : Entry)
    (h : checkFile p rs e = .ok rs') :
    (rs'.found = rs.found ∧ rs'.outRev = rs.outRev) ∨ (rs'.found = rs.found + 1 ∧ ∃ c, rs'.outRev = c :: rs.outRev) := by
  unfold checkFile at h
  simp only [hb, Bool.false_eq_true, if_false] at h
  repeat' split at h
  all_goals first
    | contradiction
    | (injection h with h; subst h; exact Or.inl ⟨rfl, rfl⟩)
    | (injection h with h; subst h; exact Or.inr ⟨rfl, _, rfl⟩)

def unlimited (p : Plan) : Plan := { p with q := { p.q with limit := 0 } }

theorem unlimited_noLimit (p : Plan) : NoLimit (unlimited p) := Or.inr rfl

/-- `check_file` never looks at the limit -/
theorem checkFile_unlimited (p : Plan) (rs : ResSt) (e : Entry) : checkFile (unlimited p) rs e = checkFile p rs e := rfl

theorem foldLim_unlimited_extends (p : Plan) (hb : p.q.isBuffered = false) (es : List Entry) (rs rsU : ResSt)
    (h : foldLim (unlimited p) rs es = .ok rsU) :
    ∃ cs, rsU.outRev = cs ++ rs.outRev ∧ rsU.found = rs.found + cs.length := by
  induction es generalizing rs with
  | nil =>
    simp only [foldLim] at h
    injection h with h; subst h
    exact ⟨[], rfl, rfl⟩
  | cons e es ih =>
    simp only [foldLim, noLimit_false _ (unlimited_noLimit p), Bool.false_eq_true, if_false, checkFile_unlimited] at h
    cases hc : checkFile p rs e with
    | error a => rw [hc] at h; contradiction
    | ok rs1 =>
      rw [hc] at h
      obtain ⟨cs, h1, h2⟩ := ih rs1 h
      rcases checkFile_step p hb rs rs1 e hc with ⟨hf, ho⟩ | ⟨hf, c, ho⟩
      · exact ⟨cs, by rw [h1, ho], by rw [h2, hf]⟩
      · exact ⟨cs ++ [c], by rw [h1, ho]; simp, by rw [h2, hf]; simp; omega⟩

theorem limitReached_streamed (p : Plan) (hb : p.q.isBuffered = false) (hn : 0 < p.q.limit) (rs : ResSt) :
    limitReached p rs = decide (p.q.limit ≤ rs.found) := by
  simp [limitReached, hb, hn]

/-- **Streamed LIMIT is a prefix of the unlimited run.**  For a query that is neither ordered nor
    aggregated with `limit n`, n ≥ 1: whenever the unlimited fold over a list of entries succeeds with
    `rsU`, the limited fold succeeds with some `rsL` whose output chunks are the *oldest*
    `min n M` chunks of the unlimited run (`M = rsU.found`), in the same order: the unlimited run wrote
    exactly those chunks first and then `cs`. -/
theorem lim_is_prefix (p : Plan) (hb : p.q.isBuffered = false) (hn : 0 < p.q.limit) (es : List Entry) (rs rsU : ResSt)
    (h0 : rs.found ≤ p.q.limit) (h : foldLim (unlimited p) rs es = .ok rsU) :
    ∃ rsL cs, foldLim p rs es = .ok rsL ∧ rsU.outRev = cs ++ rsL.outRev ∧ rsU.found = rsL.found + cs.length ∧
      rsL.found = min p.q.limit rsU.found := by
  induction es generalizing rs with
  | nil =>
    simp only [foldLim] at h
    injection h with h; subst h
    exact ⟨rs, [], rfl, rfl, rfl, by omega⟩
  | cons e es ih =>
    by_cases hl : limitReached p rs = true
    · -- the limit is reached: the limited run stops here, the unlimited one goes on prepending
      obtain ⟨cs, h1, h2⟩ := foldLim_unlimited_extends p hb (e :: es) rs rsU h
      refine ⟨rs, cs, foldLim_reached p rs hl _, h1, h2, ?_⟩
      have : p.q.limit ≤ rs.found := by simpa [limitReached_streamed p hb hn] using hl
      omega
    · have hl' : limitReached p rs = false := by simpa using hl
      have hlt : rs.found < p.q.limit := by simpa [limitReached_streamed p hb hn] using hl'
      simp only [foldLim, noLimit_false _ (unlimited_noLimit p), Bool.false_eq_true, if_false, checkFile_unlimited] at h
      simp only [foldLim, hl', Bool.false_eq_true, if_false]
      cases hc : checkFile p rs e with
      | error a => rw [hc] at h; contradiction
      | ok rs1 =>
        rw [hc] at h
        have h1 : rs1.found ≤ p.q.limit := by
          rcases checkFile_step p hb rs rs1 e hc with ⟨hf, _⟩ | ⟨hf, _⟩ <;> omega
        exact ih rs1 h1 h

/-- … in terms of the bytes on stdout: the limited output is a prefix of the unlimited output -/
theorem lim_out_prefix (p : Plan) (hb : p.q.isBuffered = false) (hn : 0 < p.q.limit) (es : List Entry) (rs rsU : ResSt)
    (h0 : rs.found ≤ p.q.limit) (h : foldLim (unlimited p) rs es = .ok rsU) :
    ∃ rsL rest, foldLim p rs es = .ok rsL ∧ rsU.out = rsL.out ++ rest ∧ rsL.found = min p.q.limit rsU.found := by
  obtain ⟨rsL, cs, h1, h2, _, h4⟩ := lim_is_prefix p hb hn es rs rsU h0 h
  refine ⟨rsL, cs.reverse.flatten, h1, ?_, h4⟩
  simp [ResSt.out, h2]

theorem limited_is_prefix (p : Plan) (hb : p.q.isBuffered = false) (hn : 0 < p.q.limit) (es : List Entry) (rs : ResSt)
    (runL runU : Except Abort WSt) (sU : WSt) {P Q : ResSt → WalkSt → Prop}
    (hL : Follows (foldLim p rs es) runL P) (hU' : Follows (foldLim (unlimited p) rs es) runU Q)
    (h0 : rs.found ≤ p.q.limit) (hU : runU = .ok sU) :
    ∃ sL cs, runL = .ok sL ∧ sU.res.outRev = cs ++ sL.res.outRev ∧ sU.res.found = sL.res.found + cs.length ∧
      sL.res.found = min p.q.limit sU.res.found := by
  cases hf : foldLim (unlimited p) rs es with
  | error a => rw [hU'.error hf] at hU; contradiction
  | ok rsU =>
    obtain ⟨wU, hwU, _⟩ := hU'.ok hf
    obtain rfl : sU = { res := rsU, walk := wU } := by rw [hwU] at hU; injection hU with hU; exact hU.symm
    obtain ⟨rsL, cs, h1, h2, h3, h4⟩ := lim_is_prefix p hb hn es rs rsU h0 hf
    obtain ⟨wL, hwL, _⟩ := hL.ok h1
    exact ⟨{ res := rsL, walk := wL }, cs, hwL, h2, h3, h4⟩

end WalkLim
end Fsel
