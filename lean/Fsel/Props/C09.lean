/-
  C09  Every output format is well-formed and carries exactly the result table.

  Model: `Output.lean` (emitters).  Reference readers are defined here (used only in theorems).
  Idea: each reader is a loop with fuel, and each round trip of HTML, CSV and JSON is one of the two inductions of
  `Lemmas/Roundtrip` applied to what the reader does on one written item (the `_step` / `_cell` / `_row` equations next to
  the readers); the flat formats are split back by `TextL.split_join` / `split_terminated`.
  First the cell encodings (JSON strings, HTML text, CSV fields): a single value, any text, is read back from its
  written form whatever follows it.  Then rows and whole documents (HTML, flat, CSV, JSON) — header, rows, separators,
  footer — are read back as exactly the table, for any number of rows and columns.  The flat formats need the property's
  own hypothesis that no value contains the separator.
  Not theorems: two select-list columns with the same text share one JSON key (known finding D19; the
  theorems speak about `rowMap`, which keeps the last value of a repeated key).
  That the four result paths emit header/rows/separators/footer in this shape is
  decided by the correspondence (bytes equal to the model) and by Python's json/csv/html parsers against
  the `into list` run.
-/
import Fsel.Model.Output
import Fsel.Lemmas.Roundtrip

namespace Fsel.C09
open Fsel TextL Roundtrip

/-! ### JSON strings -/

/-- the anonymous function inside `jsonEscape`, named (`jsonEscape_eq`); likewise `htmlEscChar` and `csvDq` below -/
def jsonEscChar (c : Char) : Str :=
  if c == '"' then ['\\', '"']
  else if c == '\\' then ['\\', '\\']
  else if c == '\n' then ['\\', 'n']
  else if c == '\r' then ['\\', 'r']
  else if c == '\t' then ['\\', 't']
  else if c.toNat == 8 then ['\\', 'b']
  else if c.toNat == 12 then ['\\', 'f']
  else if c.toNat < 0x20 then ['\\', 'u', '0', '0', hexDigit (c.toNat / 16), hexDigit (c.toNat % 16)]
  else [c]

theorem jsonEscape_eq (s : Str) : jsonEscape s = ['"'] ++ s.flatMap jsonEscChar ++ ['"'] := rfl

def hexv (c : Char) : Nat :=
  if '0' ≤ c ∧ c ≤ '9' then c.toNat - 48 else if 'a' ≤ c ∧ c ≤ 'f' then c.toNat - 87 else c.toNat - 55

/-- one character of a JSON string body (RFC 8259): an escape (of the `\u` escapes only `\u00xx`, all the writer
    emits; the hex digits are not checked), or any character except `"`, `\` and the control characters — those
    are rejected -/
def readJsonChar : Str → Option (Char × Str)
  | [] => none
  | c :: r =>
    if c == '\\' then
      match r with
      | [] => none
      | e :: r2 =>
        if e == '"' then some ('"', r2)
        else if e == '\\' then some ('\\', r2)
        else if e == '/' then some ('/', r2)
        else if e == 'n' then some ('\n', r2)
        else if e == 'r' then some ('\r', r2)
        else if e == 't' then some ('\t', r2)
        else if e == 'b' then some (Char.ofNat 8, r2)
        else if e == 'f' then some (Char.ofNat 12, r2)
        else if e == 'u' then
          match r2 with
          | a :: b :: x :: y :: r3 =>
            if a == '0' && b == '0' then some (Char.ofNat (hexv x * 16 + hexv y), r3) else none
          | _ => none
        else none
    else if c == '"' then none
    else if c.toNat < 0x20 then none
    else some (c, r)

/-- reader of a whole string body -/
def readJsonBody : Nat → Str → Option Str
  | 0, _ => none
  | _ + 1, [] => some []
  | f + 1, s =>
    match readJsonChar s with
    | none => none
    | some (c, r) => (readJsonBody f r).map (c :: ·)

theorem hexv_hexDigit : ∀ d < 16, hexv (hexDigit d) = d := by decide

theorem ctrl_hex (n : Nat) (h : n < 32) :
    Char.ofNat (hexv (hexDigit (n / 16)) * 16 + hexv (hexDigit (n % 16))) = Char.ofNat n := by
  rw [hexv_hexDigit _ (by omega), hexv_hexDigit _ (Nat.mod_lt _ (by decide)), Nat.div_add_mod']

/-- one escaped character is read back as that character -/
theorem read_escaped (c : Char) (r : Str) : readJsonChar (jsonEscChar c ++ r) = some (c, r) := by
  unfold jsonEscChar
  by_cases h1 : c = '"'
  · subst h1; rfl
  by_cases h2 : c = '\\'
  · subst h2; rfl
  by_cases h3 : c = '\n'
  · subst h3; rfl
  by_cases h4 : c = '\r'
  · subst h4; rfl
  by_cases h5 : c = '\t'
  · subst h5; rfl
  by_cases h6 : c.toNat = 8
  · have : c = Char.ofNat 8 := by rw [← h6, Char.ofNat_toNat]
    subst this; rfl
  by_cases h7 : c.toNat = 12
  · have : c = Char.ofNat 12 := by rw [← h7, Char.ofNat_toNat]
    subst this; rfl
  by_cases h8 : c.toNat < 0x20
  · simp only [beq_iff_eq, h1, h2, h3, h4, h5, h6, h7, h8, if_false, if_true]
    have : readJsonChar (['\\', 'u', '0', '0', hexDigit (c.toNat / 16), hexDigit (c.toNat % 16)] ++ r) =
        some (Char.ofNat (hexv (hexDigit (c.toNat / 16)) * 16 + hexv (hexDigit (c.toNat % 16))), r) := rfl
    rw [this, ctrl_hex c.toNat h8, Char.ofNat_toNat]
  · simp only [beq_iff_eq, h1, h2, h3, h4, h5, h6, h7, h8, if_false]
    simp only [List.cons_append, List.nil_append, readJsonChar, beq_iff_eq, h1, h2, h8, if_false]

theorem readJsonBody_step {s r : Str} {c : Char} (h : readJsonChar s = some (c, r)) (f : Nat) :
    readJsonBody (f + 1) s = (readJsonBody f r).map (c :: ·) := by
  cases s with
  | nil => cases h
  | cons x xs => simp only [readJsonBody, h]

/-- escaping followed by the JSON string reader is the identity, for every value; the reader rejects a raw `"` and
    raw control characters, so the emitted body contains none -/
theorem json_string_roundtrip (s : Str) (f : Nat) (hf : s.length < f) :
    readJsonBody f (s.flatMap jsonEscChar) = some s := by
  have h := many_roundtrip (tail := []) (k := 1) (fun _ => rfl) s (fun c _ n t => readJsonBody_step (read_escaped c t) n) hf
  rwa [List.append_nil, List.foldr_cons_nil] at h

/-- JSON string reader in context: after the opening quote, up to the closing quote -/
def readJsonStrTail : Nat → Str → Option (Str × Str)
  | 0, _ => none
  | _ + 1, [] => none
  | f + 1, c :: r =>
    if c == '"' then some ([], r)
    else match readJsonChar (c :: r) with
      | none => none
      | some (d, r2) => (readJsonStrTail f r2).map (fun p => (d :: p.1, p.2))

def readJsonString (f : Nat) : Str → Option (Str × Str)
  | '"' :: r => readJsonStrTail f r
  | _ => none

theorem readJsonStrTail_step {s r : Str} {c : Char} (h : readJsonChar s = some (c, r)) (f : Nat) :
    readJsonStrTail (f + 1) s = (readJsonStrTail f r).map (fun p => (c :: p.1, p.2)) := by
  cases s with
  | nil => cases h
  | cons x xs => simp only [readJsonStrTail, head_ne (q := '"') rfl h, Bool.false_eq_true, if_false, h]

/-- **a JSON string literal is read back as the value, whatever follows it** -/
theorem json_literal_roundtrip (s rest : Str) (f : Nat) (hf : s.length < f) :
    readJsonString f (jsonEscape s ++ rest) = some (s, rest) := by
  rw [jsonEscape_eq]
  simp only [List.append_assoc, List.cons_append, List.nil_append, readJsonString]
  have h := many_roundtrip (tail := '"' :: rest) (k := 1) (fun _ => rfl) s
    (fun c _ n t => readJsonStrTail_step (read_escaped c t) n) hf
  rwa [foldr_cons_fst] at h

/-! ### HTML cells -/

def htmlEscChar (c : Char) : Str :=
  if c == '&' then ofS "&amp;" else if c == '<' then ofS "&lt;" else if c == '>' then ofS "&gt;"
  else if c == '"' then ofS "&quot;" else if c == '\'' then ofS "&#39;" else [c]

theorem htmlEscape_eq (s : Str) : htmlEscape s = s.flatMap htmlEscChar := rfl

/-- reference reader of character data: the five entities, everything else literally -/
def readHtmlChar (s : Str) : Option (Char × Str) :=
  match s with
  | [] => none
  | c :: r =>
    if c == '&' then
      if (ofS "amp;").isPrefixOf r then some ('&', r.drop 4)
      else if (ofS "lt;").isPrefixOf r then some ('<', r.drop 3)
      else if (ofS "gt;").isPrefixOf r then some ('>', r.drop 3)
      else if (ofS "quot;").isPrefixOf r then some ('"', r.drop 5)
      else if (ofS "#39;").isPrefixOf r then some ('\'', r.drop 4)
      else none
    else if c == '<' || c == '>' then none
    else some (c, r)

def readHtmlText : Nat → Str → Option Str
  | 0, _ => none
  | _ + 1, [] => some []
  | f + 1, s =>
    match readHtmlChar s with
    | none => none
    | some (c, r) => (readHtmlText f r).map (c :: ·)

theorem read_html_escaped (c : Char) (r : Str) : readHtmlChar (htmlEscChar c ++ r) = some (c, r) := by
  unfold htmlEscChar
  by_cases h1 : c = '&'
  · subst h1; simp [readHtmlChar, ofS, List.isPrefixOf]
  by_cases h2 : c = '<'
  · subst h2; simp [readHtmlChar, ofS, List.isPrefixOf]
  by_cases h3 : c = '>'
  · subst h3; simp [readHtmlChar, ofS, List.isPrefixOf]
  by_cases h4 : c = '"'
  · subst h4; simp [readHtmlChar, ofS, List.isPrefixOf]
  by_cases h5 : c = '\''
  · subst h5; simp [readHtmlChar, ofS, List.isPrefixOf]
  simp [readHtmlChar, h1, h2, h3, h4, h5]

theorem readHtmlText_step {s r : Str} {c : Char} (h : readHtmlChar s = some (c, r)) (f : Nat) :
    readHtmlText (f + 1) s = (readHtmlText f r).map (c :: ·) := by
  cases s with
  | nil => cases h
  | cons x xs => simp only [readHtmlText, h]

/-- unescaping the emitted cell text gives the value, for every value -/
theorem html_roundtrip (s : Str) (f : Nat) (hf : s.length < f) :
    readHtmlText f (htmlEscape s) = some s := by
  have h := many_roundtrip (tail := []) (k := 1) (fun _ => rfl) s (fun c _ n t => readHtmlText_step (read_html_escaped c t) n) hf
  rwa [List.append_nil, List.foldr_cons_nil] at h

/-- the emitted cell text contains no markup delimiter (D18 fixed) -/
theorem html_cell_clean (s : Str) : ∀ c ∈ htmlEscape s, c ≠ '<' ∧ c ≠ '>' := by
  intro c hc
  rw [htmlEscape_eq, List.mem_flatMap] at hc
  obtain ⟨d, _, hd⟩ := hc
  unfold htmlEscChar at hd
  by_cases h1 : d = '&'
  · subst h1; simp [ofS] at hd; rcases hd with rfl | rfl | rfl | rfl | rfl <;> decide
  by_cases h2 : d = '<'
  · subst h2; simp [ofS] at hd; rcases hd with rfl | rfl | rfl | rfl <;> decide
  by_cases h3 : d = '>'
  · subst h3; simp [ofS] at hd; rcases hd with rfl | rfl | rfl | rfl <;> decide
  by_cases h4 : d = '"'
  · subst h4; simp [ofS] at hd; rcases hd with rfl | rfl | rfl | rfl | rfl | rfl <;> decide
  by_cases h5 : d = '\''
  · subst h5; simp [ofS] at hd; rcases hd with rfl | rfl | rfl | rfl | rfl <;> decide
  simp [h1, h2, h3, h4, h5] at hd
  subst hd
  exact ⟨h2, h3⟩

/-- character data up to the next tag -/
def readHtmlUntilTag : Nat → Str → Option (Str × Str)
  | 0, _ => none
  | _ + 1, [] => none
  | f + 1, c :: r =>
    if c == '<' then some ([], c :: r)
    else match readHtmlChar (c :: r) with
      | none => none
      | some (d, r2) => (readHtmlUntilTag f r2).map (fun p => (d :: p.1, p.2))

theorem readHtmlUntilTag_step {s r : Str} {c : Char} (h : readHtmlChar s = some (c, r)) (f : Nat) :
    readHtmlUntilTag (f + 1) s = (readHtmlUntilTag f r).map (fun p => (c :: p.1, p.2)) := by
  cases s with
  | nil => cases h
  | cons x xs => simp only [readHtmlUntilTag, head_ne (q := '<') rfl h, Bool.false_eq_true, if_false, h]

/-- **the text of a cell, read up to the closing tag, is the value** — whatever follows the tag -/
theorem html_text_in_context (s rest : Str) (f : Nat) (hf : s.length < f) :
    readHtmlUntilTag f (htmlEscape s ++ '<' :: rest) = some (s, '<' :: rest) := by
  have h := many_roundtrip (tail := '<' :: rest) (k := 1) (fun _ => rfl) s
    (fun c _ n t => readHtmlUntilTag_step (read_html_escaped c t) n) hf
  rwa [foldr_cons_fst] at h

/-! ### CSV fields -/

def csvDq (c : Char) : Str := if c == '"' then ['"', '"'] else [c]

def csvSpecial (c : Char) : Bool := c == '"' || c == ',' || c == '\n' || c == '\r'

theorem csvField_eq (single : Bool) (s : Str) :
    csvField single s = if s.any csvSpecial || (single && s.isEmpty) then ['"'] ++ s.flatMap csvDq ++ ['"'] else s := rfl

/-- RFC 4180 reader, inside a quoted field (after the opening quote): returns the value and what
    follows the closing quote -/
def readQuoted : Nat → Str → Option (Str × Str)
  | 0, _ => none
  | _ + 1, [] => none
  | f + 1, c :: r =>
    if c == '"' then
      match r with
      | [] => some ([], [])
      | d :: r2 => if d == '"' then (readQuoted f r2).map (fun p => ('"' :: p.1, p.2)) else some ([], d :: r2)
    else (readQuoted f r).map (fun p => (c :: p.1, p.2))

/-- RFC 4180 reader of an unquoted field: up to the next delimiter or line break -/
def readPlain : Str → Str × Str
  | [] => ([], [])
  | c :: r => if c == ',' || c == '\n' || c == '\r' then ([], c :: r) else ((readPlain r).1.cons c, (readPlain r).2)

def readCsvField (f : Nat) : Str → Option (Str × Str)
  | '"' :: r => readQuoted f r
  | s => some (readPlain s)

/-- where an unquoted field may end (`readPlain rest = ([], rest)`: at a delimiter or at the end of input), no
    quote follows -/
theorem not_quote_of_end {rest : Str} (hrest : readPlain rest = ([], rest)) (r : Str) : rest ≠ '"' :: r := by
  intro h
  rw [h] at hrest
  cases hrest

theorem readQuoted_step (c : Char) (f : Nat) (t : Str) :
    readQuoted (f + 1) (csvDq c ++ t) = (readQuoted f t).map (fun p => (c :: p.1, p.2)) := by
  cases hc : c == '"' with
  | true => rw [eq_of_beq hc]; rfl
  | false => simp only [csvDq, hc, Bool.false_eq_true, if_false, List.singleton_append, readQuoted]

theorem readQuoted_close {rest : Str} (hrest : readPlain rest = ([], rest)) (f : Nat) :
    readQuoted (f + 1) ('"' :: rest) = some ([], rest) := by
  cases rest with
  | nil => rfl
  | cons d r =>
    have hd : (d == '"') = false := by
      cases hd : d == '"' with
      | false => rfl
      | true => exact absurd (congrArg (· :: r) (eq_of_beq hd)) (not_quote_of_end hrest r)
    simp only [readQuoted, beq_self_eq_true, if_true, hd, Bool.false_eq_true, if_false]

theorem readPlain_append {s rest : Str} (hs : ∀ c ∈ s, csvSpecial c = false) (hrest : readPlain rest = ([], rest)) :
    readPlain (s ++ rest) = (s, rest) := by
  induction s with
  | nil => exact hrest
  | cons c s ih =>
    have hc := hs c (List.mem_cons_self ..)
    simp only [csvSpecial, Bool.or_eq_false_iff] at hc
    simp only [List.cons_append, readPlain, hc, Bool.or_self, Bool.false_eq_true, if_false,
      ih (fun d hd => hs d (List.mem_cons_of_mem _ hd))]

theorem readCsvField_plain {s : Str} (h : ∀ r, s ≠ '"' :: r) (f : Nat) : readCsvField f s = some (readPlain s) := by
  unfold readCsvField
  split
  · exact absurd rfl (h _)
  · rfl

/-- every CSV field is read back as the value, whatever follows it in the record (`hrest`: a delimiter or nothing) -/
theorem csv_field_roundtrip (single : Bool) (s : Str) {rest : Str} (hrest : readPlain rest = ([], rest))
    (f : Nat) (hf : s.length < f) : readCsvField f (csvField single s ++ rest) = some (s, rest) := by
  rw [csvField_eq]
  split
  · simp only [List.append_assoc, List.cons_append, List.nil_append, readCsvField]
    have h := many_roundtrip (tail := '"' :: rest) (k := 1) (readQuoted_close hrest) s (fun c _ => readQuoted_step c) hf
    rwa [foldr_cons_fst] at h
  · next hplain =>
    have hs : ∀ c ∈ s, csvSpecial c = false := fun c hc =>
      Bool.eq_false_iff.mpr fun h => hplain (by rw [List.any_eq_true.mpr ⟨c, hc, h⟩]; rfl)
    rw [readCsvField_plain _ f, readPlain_append hs hrest]
    intro r h
    cases s with
    | nil => exact not_quote_of_end hrest r h
    | cons c s' =>
      injection h with h
      exact absurd (hs c (List.mem_cons_self ..)) (by rw [h]; decide)

/-! ### whole HTML rows and documents -/

def stripPrefix (p s : Str) : Option Str := if p.isPrefixOf s then some (s.drop p.length) else none

theorem stripPrefix_append (p r : Str) : stripPrefix p (p ++ r) = some r := by
  unfold stripPrefix
  have h : p.isPrefixOf (p ++ r) = true := List.isPrefixOf_iff_prefix.mpr (List.prefix_append p r)
  simp [h]

def htmlCell (v : Str) : Str := ofS "<td>" ++ htmlEscape v ++ ofS "</td>"
def htmlRow (vals : List Str) : Str := ofS "<tr>" ++ vals.flatMap htmlCell ++ ofS "</tr>"

/-- the rows the HTML round trips speak of are what `fmtRow .Html` writes -/
theorem fmtRow_html (items : List (Str × Str)) : fmtRow .Html items = htmlRow (items.map (·.2)) := rfl

def readHtmlCell (f : Nat) (s : Str) : Option (Str × Str) :=
  match stripPrefix (ofS "<td>") s with
  | none => none
  | some r =>
    match readHtmlUntilTag f r with
    | none => none
    | some (v, r2) => (stripPrefix (ofS "</td>") r2).map (fun r3 => (v, r3))

theorem html_cell_roundtrip (v rest : Str) (f : Nat) (hf : v.length < f) :
    readHtmlCell f (htmlCell v ++ rest) = some (v, rest) := by
  simp only [readHtmlCell, htmlCell, List.append_assoc, stripPrefix_append]
  -- the closing tag starts with `<`, where the text reader stops
  rw [show ofS "</td>" ++ rest = '<' :: (ofS "/td>" ++ rest) from rfl, html_text_in_context v _ f hf]
  exact congrArg (Option.map _) (stripPrefix_append (ofS "</td>") rest)

/-- the cells of a row, up to `</tr>` -/
def readHtmlCells (f : Nat) : Nat → Str → Option (List Str × Str)
  | 0, _ => none
  | n + 1, s =>
    match stripPrefix (ofS "</tr>") s with
    | some r => some ([], r)
    | none =>
      match readHtmlCell f s with
      | none => none
      | some (v, r) => (readHtmlCells f n r).map (fun p => (v :: p.1, p.2))

theorem cell_not_row_end (v rest : Str) : stripPrefix (ofS "</tr>") (htmlCell v ++ rest) = none := by
  simp [stripPrefix, htmlCell, ofS, List.isPrefixOf]

theorem readHtmlCells_cell {v : Str} {f : Nat} (hf : v.length < f) (n : Nat) (t : Str) :
    readHtmlCells f (n + 1) (htmlCell v ++ t) = (readHtmlCells f n t).map (fun p => (v :: p.1, p.2)) := by
  simp only [readHtmlCells, cell_not_row_end, html_cell_roundtrip v t f hf]

def readHtmlRow (f n : Nat) (s : Str) : Option (List Str × Str) :=
  match stripPrefix (ofS "<tr>") s with
  | none => none
  | some r => readHtmlCells f n r

/-- **one table row carries exactly the row**: cells in order, each decoding to its value -/
theorem html_row_roundtrip (f : Nat) (vals : List Str) (rest : Str) (hf : ∀ v ∈ vals, v.length < f) (n : Nat) (hn : vals.length < n) :
    readHtmlRow f n (htmlRow vals ++ rest) = some (vals, rest) := by
  simp only [readHtmlRow, htmlRow, List.append_assoc, stripPrefix_append]
  have h := many_roundtrip (tail := ofS "</tr>" ++ rest) (k := 1)
    (fun n => by rw [readHtmlCells, stripPrefix_append]) vals (fun v hv => readHtmlCells_cell (hf v hv)) hn
  rwa [foldr_cons_fst] at h

/-- the rows of a table, up to the footer -/
def readHtmlRows (f w : Nat) : Nat → Str → Option (List (List Str))
  | 0, _ => none
  | n + 1, s =>
    if s == fmtFooter .Html then some []
    else match readHtmlRow f w s with
      | none => none
      | some (row, r) => (readHtmlRows f w n r).map (row :: ·)

theorem row_not_footer (vals : List Str) (rest : Str) : (htmlRow vals ++ rest == fmtFooter .Html) = false := by
  have : (htmlRow vals ++ rest) = '<' :: 't' :: (ofS "r>" ++ vals.flatMap htmlCell ++ ofS "</tr>" ++ rest) := by
    simp [htmlRow, ofS]
  rw [this]
  simp [fmtFooter, ofS]

theorem readHtmlRows_row {f w : Nat} {vals : List Str} (hf : ∀ v ∈ vals, v.length < f) (hw : vals.length < w)
    (n : Nat) (t : Str) : readHtmlRows f w (n + 1) (htmlRow vals ++ t) = (readHtmlRows f w n t).map (vals :: ·) := by
  simp only [readHtmlRows, row_not_footer, Bool.false_eq_true, if_false, html_row_roundtrip f vals t hf w hw]

def readHtmlDoc (f w n : Nat) (s : Str) : Option (List (List Str)) :=
  match stripPrefix (fmtHeader .Html) s with
  | none => none
  | some r => readHtmlRows f w n r

/-- **the HTML output carries exactly the result table**: header, one `<tr>` per row with one `<td>` per
    value, footer — read back as the list of rows, every cell unescaped to its value (for every table of
    arbitrary values; the row separator of this format is empty) -/
theorem html_document_roundtrip (f w : Nat) (rows : List (List (Str × Str)))
    (hf : ∀ r ∈ rows, ∀ kv ∈ r, kv.2.length < f) (hw : ∀ r ∈ rows, r.length < w) :
    readHtmlDoc f w (rows.length + 1)
      (fmtHeader .Html ++ (rows.map (fmtRow .Html)).flatten ++ fmtFooter .Html) = some (rows.map fun r => r.map (·.2)) := by
  simp only [readHtmlDoc, List.append_assoc, stripPrefix_append, ← List.flatMap_def]
  have h := many_roundtrip (read := readHtmlRows f w) (tail := fmtFooter .Html) (k := 1)
    (fun n => by rw [readHtmlRows, if_pos (beq_self_eq_true _)]) rows
    (fun r hr n t => readHtmlRows_row (List.forall_mem_map.mpr (hf r hr)) (by simpa using hw r hr) n t)
    (Nat.le_refl _)
  rwa [List.foldr_cons_eq_append, List.append_nil] at h

/-- a concrete check: the row separator of HTML, CSV and tabs is empty, so joined rows are the concatenation -/
example : fmtSeparator .Html = [] ∧ fmtSeparator .Csv = [] ∧ fmtSeparator .Tabs = [] := ⟨rfl, rfl, rfl⟩

/-! ### flat formats -/

/-- the values of a `tabs` / `lines` / `list` row, joined by the separator (the row without its terminator), split
    back into the values when no value contains the separator -/
theorem flat_roundtrip (sep : Char) (vals : List Str) (hne : vals ≠ [])
    (h : ∀ v ∈ vals, ∀ c ∈ v, c ≠ sep) : splitChar sep (joinWith [sep] vals) = vals := by
  cases vals with
  | nil => exact absurd rfl hne
  | cons v vs => exact split_join sep v vs h []

/-- **the `into list` output carries exactly the result table**: every value closed by a NUL, row after row —
    splitting the output at NUL returns all the cells of all the rows in order (then one empty piece), for every
    table whose values contain no NUL (file names and rendered values never do) -/
theorem list_document_roundtrip (rows : List (List Str)) (hne : ∀ r ∈ rows, r ≠ [])
    (h : ∀ r ∈ rows, ∀ v ∈ r, ∀ c ∈ v, c ≠ Char.ofNat 0) :
    splitChar (Char.ofNat 0) (rows.flatMap (flatRow (Char.ofNat 0) (Char.ofNat 0))) = rows.flatten ++ [[]] := by
  have hdoc : rows.flatMap (flatRow (Char.ofNat 0) (Char.ofNat 0)) = rows.flatten.flatMap (· ++ [Char.ofNat 0]) := by
    induction rows with
    | nil => rfl
    | cons r rs ih =>
      rw [List.flatMap_cons, List.flatten_cons, List.flatMap_append, flatRow,
        joinWith_append_sep _ r (hne r (List.mem_cons_self ..)),
        ih (fun q hq => hne q (List.mem_cons_of_mem _ hq)) (fun q hq => h q (List.mem_cons_of_mem _ hq))]
  rw [splitChar, hdoc]
  apply split_terminated
  intro v hv
  obtain ⟨r, hr, hvr⟩ := List.mem_flatten.mp hv
  exact h r hr v hvr

/-! ### whole CSV records and documents -/

/-- RFC 4180 record reader: fields separated by commas, closed by a line feed; `ff` is the fuel of the
    field reader, the first `Nat` bounds the number of fields -/
def readCsvRecord (ff : Nat) : Nat → Str → Option (List Str × Str)
  | 0, _ => none
  | n + 1, s =>
    match readCsvField ff s with
    | none => none
    | some (v, ',' :: r) => (readCsvRecord ff n r).map (fun p => (v :: p.1, p.2))
    | some (v, '\n' :: r) => some ([v], r)
    | some _ => none

theorem joinWith_cons2 (sep : Str) (x y : Str) (ys : List Str) :
    joinWith sep (x :: y :: ys) = x ++ sep ++ joinWith sep (y :: ys) := joinWith_cons_cons sep x y ys

theorem readCsvRecord_row (ff : Nat) (vals : List Str) (hne : vals ≠ []) (rest : Str)
    (hf : ∀ v ∈ vals, v.length < ff) (w : Nat) (hw : vals.length ≤ w) :
    readCsvRecord ff w (csvRow vals ++ rest) = some (vals, rest) := by
  have h := read_joined (R := readCsvRecord ff) (enc := csvField (vals.length == 1)) (val := id) (close := '\n') vals hne
    (fun v hv n r => by simp only [readCsvRecord, csv_field_roundtrip _ v (rest := ',' :: r) rfl ff (hf v hv), id])
    (fun v hv n r => by simp only [readCsvRecord, csv_field_roundtrip _ v (rest := '\n' :: r) rfl ff (hf v hv), id])
    rest hw
  rw [List.map_id] at h
  rw [csvRow, List.append_assoc]
  exact h

/-- **one CSV record carries exactly the row**: `csvRow` (the `csv` crate's writer) followed by the
    RFC 4180 record reader is the identity on every non-empty row of arbitrary values -/
theorem csv_record_roundtrip (vals : List Str) (hne : vals ≠ []) (rest : Str) (ff : Nat)
    (hf : ∀ v ∈ vals, v.length < ff) :
    readCsvRecord ff vals.length (csvRow vals ++ rest) = some (vals, rest) :=
  readCsvRecord_row ff vals hne rest hf _ (Nat.le_refl _)

/-- reader of a whole CSV document: records until the input ends (`w` = fields per record at most) -/
def readCsvDoc (ff w : Nat) : Nat → Str → Option (List (List Str))
  | _, [] => some []
  | 0, _ :: _ => none
  | n + 1, s =>
    match readCsvRecord ff w s with
    | none => none
    | some (row, r) => (readCsvDoc ff w n r).map (row :: ·)

theorem readCsvDoc_step {ff w : Nat} {s r : Str} {row : List Str} (h : readCsvRecord ff w s = some (row, r)) (n : Nat) :
    readCsvDoc ff w (n + 1) s = (readCsvDoc ff w n r).map (row :: ·) := by
  cases s with
  | nil => cases w <;> cases h
  | cons x xs => simp only [readCsvDoc, h]

/-- **the CSV output carries exactly the result table**: one record per row, each decoding to the
    row's values — for every table (any number of rows, every row non-empty, any values) -/
theorem csv_document_roundtrip (rows : List (List Str)) (hne : ∀ r ∈ rows, r ≠ []) (ff w : Nat)
    (hf : ∀ r ∈ rows, ∀ v ∈ r, v.length < ff) (hw : ∀ r ∈ rows, r.length ≤ w) :
    readCsvDoc ff w rows.length (rows.flatMap csvRow) = some rows := by
  have h := many_roundtrip (read := readCsvDoc ff w) (tail := []) (k := 0) (fun n => by cases n <;> rfl) rows
    (fun r hr n t => readCsvDoc_step (readCsvRecord_row ff r (hne r hr) t (hf r hr) w (hw r hr)) n) (Nat.le_refl _)
  rwa [List.append_nil, List.foldr_cons_nil] at h

/-- a concrete check, with every special character: quotes, commas, CR, LF, the lone empty field -/
example : readCsvDoc 20 3 3 ([[ofS "a\"b", ofS "c,d", ofS "e\r\nf"], [[]], [ofS "x", []]].flatMap csvRow) =
    some [[ofS "a\"b", ofS "c,d", ofS "e\r\nf"], [[]], [ofS "x", []]] := by decide

/-! ### whole JSON objects and arrays -/

/-- reader of the members of an object after `{`: `"k":"v"` separated by commas, closed by `}` -/
def readJsonMembers (f : Nat) : Nat → Str → Option (List (Str × Str) × Str)
  | 0, _ => none
  | n + 1, s =>
    match readJsonString f s with
    | some (k, ':' :: r) =>
      (match readJsonString f r with
       | some (v, ',' :: r2) => (readJsonMembers f n r2).map (fun p => ((k, v) :: p.1, p.2))
       | some (v, '}' :: r2) => some ([(k, v)], r2)
       | _ => none)
    | _ => none

def readJsonObject (f n : Nat) : Str → Option (List (Str × Str) × Str)
  | '{' :: '}' :: r => some ([], r)
  | '{' :: r => readJsonMembers f n r
  | _ => none

def jsonMember (kv : Str × Str) : Str := jsonEscape kv.1 ++ [':'] ++ jsonEscape kv.2

theorem json_members_roundtrip (f : Nat) (m : List (Str × Str)) (hne : m ≠ []) (rest : Str)
    (hf : ∀ kv ∈ m, kv.1.length < f ∧ kv.2.length < f) (n : Nat) (hn : m.length ≤ n) :
    readJsonMembers f n (joinWith [','] (m.map jsonMember) ++ '}' :: rest) = some (m, rest) := by
  have := read_joined (R := readJsonMembers f) (enc := jsonMember) (val := id) (close := '}') m hne
    (fun kv hkv n r => ?_) (fun kv hkv n r => ?_) rest hn
  · rwa [List.map_id] at this
  all_goals
    simp only [jsonMember, List.append_assoc, List.cons_append, List.nil_append, readJsonMembers,
      json_literal_roundtrip _ _ f (hf kv hkv).1, json_literal_roundtrip _ _ f (hf kv hkv).2, id]

/-- the map a row is written from: `BTreeMap` insertion of the (column, value) pairs -/
def rowMap (items : List (Str × Str)) : List (Str × Str) := items.foldl (fun acc (k, v) => btreeInsert acc k v) []

theorem jsonRow_eq (items : List (Str × Str)) :
    jsonRow items = ['{'] ++ joinWith [','] ((rowMap items).map jsonMember) ++ ['}'] := rfl

/-- `'{' :: '}' :: r` is matched first; a quote after `{` rules it out -/
theorem readJsonObject_members {s : Str} (h : s.head? = some '"') (f n : Nat) :
    readJsonObject f n ('{' :: s) = readJsonMembers f n s := by
  cases s with
  | nil => cases h
  | cons c t => cases h; rfl

theorem readJsonObject_row (items : List (Str × Str)) (rest : Str) (f w : Nat)
    (hf : ∀ kv ∈ rowMap items, kv.1.length < f ∧ kv.2.length < f) (hw : (rowMap items).length ≤ w) :
    readJsonObject f w (jsonRow items ++ rest) = some (rowMap items, rest) := by
  rw [jsonRow_eq]
  cases hm : rowMap items with
  | nil => rfl
  | cons kv ms =>
    rw [List.append_assoc, List.append_assoc, List.singleton_append, List.singleton_append, List.map_cons,
      readJsonObject_members (joinWith_head? (x := jsonMember kv) rfl ..), ← List.map_cons,
      json_members_roundtrip f _ (List.cons_ne_nil _ _) rest (hm ▸ hf) w (hm ▸ hw)]

/-- **one JSON object carries exactly the row's map**: for every row, the emitted object is read back as
    the key/value map the row was written from (keys sorted, a repeated key keeps its last value — D19) -/
theorem json_object_roundtrip (items : List (Str × Str)) (rest : Str) (f : Nat)
    (hf : ∀ kv ∈ rowMap items, kv.1.length < f ∧ kv.2.length < f) :
    readJsonObject f (rowMap items).length (jsonRow items ++ rest) = some (rowMap items, rest) :=
  readJsonObject_row items rest f _ hf (Nat.le_refl _)

/-- reader of a JSON array of objects: `[` obj (`,` obj)* `]` -/
def readJsonRows (f w : Nat) : Nat → Str → Option (List (List (Str × Str)) × Str)
  | 0, _ => none
  | n + 1, s =>
    match readJsonObject f w s with
    | some (o, ',' :: r) => (readJsonRows f w n r).map (fun p => (o :: p.1, p.2))
    | some (o, ']' :: r) => some ([o], r)
    | _ => none

def readJsonArray (f w n : Nat) : Str → Option (List (List (Str × Str)))
  | '[' :: ']' :: [] => some []
  | '[' :: r => match readJsonRows f w n r with
    | some (rows, []) => some rows
    | _ => none
  | _ => none

theorem readJsonArray_rows {s : Str} (h : s.head? = some '{') (f w n : Nat) :
    readJsonArray f w n ('[' :: s) = match readJsonRows f w n s with | some (rows, []) => some rows | _ => none := by
  cases s with
  | nil => cases h
  | cons c t => cases h; rfl

theorem json_rows_roundtrip (f w : Nat) (rows : List (List (Str × Str))) (hne : rows ≠ [])
    (hf : ∀ r ∈ rows, ∀ kv ∈ rowMap r, kv.1.length < f ∧ kv.2.length < f) (hw : ∀ r ∈ rows, (rowMap r).length ≤ w)
    (n : Nat) (hn : rows.length ≤ n) :
    readJsonRows f w n (joinWith [','] (rows.map jsonRow) ++ [']']) = some (rows.map rowMap, []) := by
  refine read_joined rows hne (fun r hr n t => ?_) (fun r hr n t => ?_) [] hn <;>
    simp only [readJsonRows, readJsonObject_row r _ f w (hf r hr) (hw r hr)]

/-- **the JSON output is one array with one object per row, carrying exactly the table**: header `[`,
    rows joined by the separator `,`, footer `]` — read back as the list of the rows' maps, for every
    table of arbitrary values -/
theorem json_document_roundtrip (f w : Nat) (rows : List (List (Str × Str)))
    (hf : ∀ r ∈ rows, ∀ kv ∈ rowMap r, kv.1.length < f ∧ kv.2.length < f) (hw : ∀ r ∈ rows, (rowMap r).length ≤ w) :
    readJsonArray f w rows.length
      (fmtHeader .Json ++ joinWith (fmtSeparator .Json) (rows.map (fmtRow .Json)) ++ fmtFooter .Json) = some (rows.map rowMap) := by
  cases rows with
  | nil => rfl
  | cons r rs =>
    show readJsonArray f w _ ('[' :: (joinWith [','] (jsonRow r :: rs.map jsonRow) ++ [']'])) = _
    rw [readJsonArray_rows (joinWith_head? (x := jsonRow r) rfl ..), ← List.map_cons,
      json_rows_roundtrip f w (r :: rs) (List.cons_ne_nil _ _) hf hw _ (Nat.le_refl _)]

/-- a concrete check: a row with distinct, sorted column names is its own map (so the object lists exactly the row) -/
example : rowMap [(ofS "name", ofS "a\"b"), (ofS "size", ofS "1")] = [(ofS "name", ofS "a\"b"), (ofS "size", ofS "1")] := by decide

end Fsel.C09
