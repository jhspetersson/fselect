/-
  C07  Aggregate functions return the mathematical aggregate of the matching entries.

  Model: `aggregate` (= `get_aggregate_value`) over the buffered rows, each row a map from column text
  to value text.
  Idea: the column of a table written from a list `xs` of naturals (any length, values up to the machine range) is read
  back through the parsers as `xs` (`parsed_rowsOf`), so COUNT = number of rows, SUM = Σxs, MIN = min, AVG = Σxs / n as
  a real number (ℚ) — not truncated (D14 fixed) —, VAR_POP/VAR_SAMP = Σ(μ−x)²/n resp. /(n−1).
  Not theorems: MAX (its mirror image in the model); that `aggregate .Avg` renders `meanQ` (so by definition, not
  stated).  The textual rendering of the real-valued results is exact when the value is a small dyadic rational and is
  otherwise compared numerically by the harness (f64 rounding is outside the proof).  STDDEV = √VAR is checked
  numerically only.  "WHERE before aggregation" and "aggregate of a scalar expression" are pipeline facts decided by
  the correspondence and the oracle.
-/
import Fsel.Model.Agg
import Fsel.Lemmas.Num

namespace Fsel.C07
open Fsel TextL ListL

/-- buffered rows holding the decimal renderings of `xs` under column `key` -/
def rowsOf (key : Str) (xs : List Nat) : List Memo := xs.map fun x => [(key, showNat x)]

/-- buffered rows in which some entries have no value for `key` (an empty cell) -/
def rowsOfOpt (key : Str) (xs : List (Option Nat)) : List Memo :=
  xs.map fun x => [(key, match x with | some n => showNat n | none => [])]

/-! ### one column of single-cell rows, read back through a parser -/

theorem colValues_single (key : Str) {α : Type} (c : α → Str) (xs : List α) :
    colValues (xs.map fun x => [(key, c x)]) key = xs.map c :=
  filterMap_map_some _ _ c xs fun x _ => lookup_single key (c x)

theorem parsed_rowsOf {γ : Type} (p : Str → Option γ) (k : Nat → γ) (key : Str) (xs : List Nat)
    (h : ∀ x ∈ xs, p (showNat x) = some (k x)) : (colValues (rowsOf key xs) key).filterMap p = xs.map k := by
  rw [rowsOf, colValues_single, filterMap_map_some p showNat k xs h]

theorem bufferSum_rowsOf (key : Str) (xs : List Nat) (h : ∀ x ∈ xs, x ≤ u64Max) :
    bufferSum (rowsOf key xs) key = xs.sum := by
  rw [bufferSum, parsed_rowsOf parseUsize? id key xs fun x hx => parseUsize_showNat x (h x hx), List.map_id]

theorem bufferSum_rowsOfOpt (key : Str) (xs : List (Option Nat)) (h : ∀ x ∈ xs, ∀ n, x = some n → n ≤ u64Max) :
    bufferSum (rowsOfOpt key xs) key = (xs.filterMap id).sum := by
  rw [bufferSum, rowsOfOpt, colValues_single, filterMap_map_congr parseUsize? _ id xs]
  intro x hx
  cases x with
  | none => decide
  | some n => exact parseUsize_showNat n (h _ hx n rfl)

/-- COUNT(*) is the number of buffered rows, whatever they contain -/
theorem count_spec (rows : List Memo) (key : Str) : aggregate .Count rows key = (showNat rows.length, true) := rfl

/-- SUM is the exact sum -/
theorem sum_spec (key : Str) (xs : List Nat) (h : ∀ x ∈ xs, x ≤ u64Max) :
    aggregate .Sum (rowsOf key xs) key = (showNat xs.sum, true) :=
  congrArg (fun n => (showNat n, true)) (bufferSum_rowsOf key xs h)

/-- SUM skips the entries without a value -/
theorem sum_spec_partial (key : Str) (xs : List (Option Nat)) (h : ∀ x ∈ xs, ∀ n, x = some n → n ≤ u64Max) :
    aggregate .Sum (rowsOfOpt key xs) key = (showNat (xs.filterMap id).sum, true) :=
  congrArg (fun n => (showNat n, true)) (bufferSum_rowsOfOpt key xs h)

/-- the mean the model computes for AVG, `meanQ`, is Σxs / n in ℚ (no truncation).  `aggregate .Avg` is `showNumQ` of it
    by definition; no theorem says so. -/
theorem avg_spec (key : Str) (xs : List Nat) (h : ∀ x ∈ xs, x ≤ u64Max) :
    meanQ (rowsOf key xs) key = (xs.sum : Rat) / (xs.length : Rat) := by
  rw [meanQ, bufferSum_rowsOf key xs h, rowsOf, List.length_map]

/-- **`meanQ` = SUM / COUNT, also when some entries have no value**: every matching entry counts in the
    denominator (COUNT is the number of rows, `count_spec`), only the values that exist are summed -/
theorem avg_spec_partial (key : Str) (xs : List (Option Nat)) (h : ∀ x ∈ xs, ∀ n, x = some n → n ≤ u64Max) :
    meanQ (rowsOfOpt key xs) key = ((xs.filterMap id).sum : Rat) / (xs.length : Rat) := by
  rw [meanQ, bufferSum_rowsOfOpt key xs h, rowsOfOpt, List.length_map]

/-- the hypotheses can be met: the sizes 1 and 2 of the D14 witness are within `u64` -/
example : ∀ x ∈ [1, 2], x ≤ u64Max := by decide

/-- a concrete check: two files with 2 and 4 lines and a directory have mean 6 / 3 = 2 (not 3) -/
example : meanQ (rowsOfOpt (ofS "line_count") [some 2, some 4, none]) (ofS "line_count") = 2 := by
  rw [avg_spec_partial _ _ (by decide)]
  show ((6 : Nat) : Rat) / ((3 : Nat) : Rat) = 2
  decide +kernel

theorem listMin_eq_min (l : List Int) : listMin l = l.min? := by
  cases l with
  | nil => rfl
  | cons x xs =>
    have e : (fun a b : Int => if b < a then b else a) = min := by
      funext a b; rw [Int.min_def]; split <;> split <;> omega
    rw [listMin, e, List.min?_cons']

/-- MIN is a lower bound that is attained -/
theorem min_spec (key : Str) (x : Nat) (xs : List Nat) (h : ∀ y ∈ x :: xs, (y : Int) ≤ i64Max) :
    ∃ m : Int, aggregate .Min (rowsOf key (x :: xs)) key = (showInt m, true) ∧
      m ∈ (x :: xs).map Int.ofNat ∧ ∀ y ∈ (x :: xs).map Int.ofNat, m ≤ y := by
  have e := parsed_rowsOf parseI64? Int.ofNat key _ fun y hy => parseI64_showNat y (h y hy)
  obtain ⟨m, hm⟩ : ∃ m, ((x :: xs).map Int.ofNat).min? = some m := ⟨_, List.min?_cons'⟩
  refine ⟨m, ?_, List.min?_eq_some_iff.1 hm⟩
  rw [aggregate, e, listMin_eq_min, hm]; rfl

/-- aggregates of an empty result: COUNT 0, SUM/MIN/MAX/AVG 0, variances empty -/
theorem empty_spec (key : Str) :
    aggregate .Count [] key = (['0'], true) ∧ aggregate .Sum [] key = (['0'], true) ∧
    aggregate .Min [] key = (['0'], true) ∧ aggregate .Max [] key = (['0'], true) ∧
    aggregate .Avg [] key = (['0'], true) ∧ aggregate .VarPop [] key = ([], true) ∧
    aggregate .VarSamp [] key = ([], true) := by
  simp [aggregate, bufferSum, colValues, listMin, listMax, showInt, showNat_zero]

/-! ### variance: the textbook two-pass formula, exactly, in ℚ -/

/-- the accumulation loop of `varianceQ` over finite values is the sum of the squared deviations over `n` -/
theorem variance_fold (avg : Rat) (n : Nat) (e : Nat → Bool) (xs : List Nat) (a : Rat) (b : Bool) :
    ((xs.map fun (x : Nat) => Num.fin (x : Rat) (e x)).foldl (fun (acc : Rat × Bool) v =>
      match v with
      | .fin q ex => (acc.1 + (avg - q) * (avg - q) / (n : Rat), acc.2 && ex)
      | _ => (acc.1, false)) (a, b)).1 = a + (xs.map fun (x : Nat) => (avg - (x : Rat)) * (avg - (x : Rat)) / (n : Rat)).sum := by
  induction xs generalizing a b with
  | nil => simp [Rat.add_zero]
  | cons x xs ih =>
    simp only [List.map_cons, List.foldl_cons, List.sum_cons]
    rw [ih, Rat.add_assoc]

/-- **VAR_POP / VAR_SAMP are the textbook formulas**: for a column of naturals the model's value is
    exactly Σ (μ − x)² / n with μ = Σx / count — n = count for the population variance, count − 1 for the
    sample variance (the f64 computation agrees up to rounding: decided by the correspondence with a
    tolerance and by Python's `statistics`) -/
theorem variance_spec (key : Str) (xs : List Nat) (h : ∀ x ∈ xs, x ≤ u64Max) (n : Nat) :
    (varianceQ (rowsOf key xs) key n).1 =
      (xs.map fun (x : Nat) => ((xs.sum : Rat) / (xs.length : Rat) - (x : Rat)) * ((xs.sum : Rat) / (xs.length : Rat) - (x : Rat)) / (n : Rat)).sum := by
  have e : (colValues (rowsOf key xs) key).filterMap parseF64? =
      xs.map fun (x : Nat) => Num.fin (x : Rat) (true && dyadicSmall (x : Rat)) :=
    parsed_rowsOf parseF64? _ key xs fun x hx => NumL.parseF64_showNat x (NumL.u64_lt_pow x (h x hx))
  unfold varianceQ
  simp only [avg_spec key xs h, e]
  exact (variance_fold _ n _ xs 0 true).trans (Rat.zero_add _)

/-- the divisor: population = number of rows, sample = number of rows − 1 (1 for a single row) -/
theorem variance_divisors (rows : List Memo) (key : Str) (hne : rows.isEmpty = false) :
    (aggregate .VarPop rows key).1 = (showNumQ (varianceQ rows key rows.length).1 (varianceQ rows key rows.length).2).1 ∧
    (aggregate .VarSamp rows key).1 =
      (showNumQ (varianceQ rows key (if rows.length == 1 then 1 else rows.length - 1)).1
                (varianceQ rows key (if rows.length == 1 then 1 else rows.length - 1)).2).1 := by
  constructor <;> simp [aggregate, hne]

/-- the hypotheses can be met: the sizes 2, 4, 4, 4, 5, 5, 7, 9 are within `u64` -/
example : ∀ x ∈ [2, 4, 4, 4, 5, 5, 7, 9], x ≤ u64Max := by decide

end Fsel.C07
