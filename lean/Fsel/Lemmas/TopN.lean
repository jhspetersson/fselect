/-
  `TopN` in two layers.  Abstract: one list kept sorted by stable insertion, cut to `n` after each insertion when
  there is a limit; since inserting commutes with truncation (`ins_take`), that is unbounded insertion, then `take n`.
  Faithful: the BTreeMap of echelons, whose flattening under the invariant `EchOK` is the abstract list, `push` being
  `ins` and `popLast` being `dropLast`.
-/
import Fsel.Model.TopN
import Fsel.Lemmas.Order

namespace Fsel
namespace TopNL

variable {K V : Type}

/-! ### the abstract layer: stable insertion, and truncation -/

theorem ins_eq (le : K → K → Bool) (x : K × V) (l : List (K × V)) :
    ins le x l = l.takeWhile (fun y => le y.1 x.1) ++ x :: l.dropWhile (fun y => le y.1 x.1) := by
  induction l with
  | nil => rfl
  | cons y ys ih => simp only [ins, List.takeWhile_cons, List.dropWhile_cons]; split <;> simp [ih]

theorem ins_perm (le : K → K → Bool) (x : K × V) (l : List (K × V)) : (ins le x l).Perm (x :: l) := by
  rw [ins_eq]
  exact List.perm_middle.trans (.cons _ (.of_eq List.takeWhile_append_dropWhile))

theorem ins_length (le : K → K → Bool) (x : K × V) (l : List (K × V)) : (ins le x l).length = l.length + 1 :=
  (ins_perm le x l).length_eq

theorem ins_ne_nil (le : K → K → Bool) (x : K × V) (l : List (K × V)) : ins le x l ≠ [] := by
  intro h; have := ins_length le x l; rw [h] at this; simp at this

theorem ins_take (le : K → K → Bool) (x : K × V) (l : List (K × V)) (n : Nat) :
    (ins le x l).take n = (ins le x (l.take n)).take n := by
  induction l generalizing n with
  | nil => simp [ins]
  | cons y ys ih =>
    cases n with
    | zero => simp
    | succ n =>
      simp only [ins, List.take_succ_cons]
      split
      · simp only [List.take_succ_cons]; rw [ih n]
      · simp only [List.take_succ_cons]
        cases n with
        | zero => simp
        | succ m => simp [List.take_succ_cons, List.take_take]

theorem insN_eq (le : K → K → Bool) (n : Nat) (l : List (K × V)) (x : K × V) (hl : l.length ≤ n) :
    insN le n l x = (ins le x l).take n := by
  unfold insN
  have hlen := ins_length le x l
  simp only
  split
  · rename_i h
    have : (ins le x l).length = n + 1 := by omega
    rw [List.dropLast_eq_take, this]; simp
  · rename_i h
    rw [List.take_of_length_le (by omega)]

/-- the bounded list is the unbounded one cut to `n`, all along the fold: inserting commutes with the cut (`ins_take`) -/
theorem foldl_insN (le : K → K → Bool) (n : Nat) (xs : List (K × V)) (l : List (K × V)) (hl : l.length ≤ n) :
    xs.foldl (insN le n) l = (xs.foldl (fun a x => ins le x a) l).take n ∧
    (xs.foldl (insN le n) l).length ≤ n :=
  have h := List.foldl_rel (r := fun a b : List (K × V) => a = b.take n) (List.take_of_length_le hl).symm
    fun x _ a b h => by rw [insN_eq le n a x (h ▸ List.length_take_le n b), h, ← ins_take]
  ⟨h, h ▸ List.length_take_le n _⟩

def Sorted (le : K → K → Bool) (l : List (K × V)) : Prop := l.Pairwise (fun a b => le a.1 b.1 = true)

theorem ins_sorted (le : K → K → Bool) (hp : TotalPreorder le) (x : K × V) (l : List (K × V))
    (h : Sorted le l) : Sorted le (ins le x l) := by
  induction l with
  | nil => simp [ins, Sorted]
  | cons y ys ih =>
    obtain ⟨hy, hys⟩ := List.pairwise_cons.mp h
    simp only [ins]
    split
    · rename_i hyx
      refine List.pairwise_cons.mpr ⟨fun z hz => ?_, ih hys⟩
      rcases List.mem_cons.mp ((ins_perm le x ys).mem_iff.mp hz) with rfl | hm
      · exact hyx
      · exact hy z hm
    · rename_i hyx
      have hxy := (hp.total x.1 y.1).resolve_right hyx
      exact List.pairwise_cons.mpr ⟨List.forall_mem_cons.mpr ⟨hxy, fun z hz => hp.trans _ _ _ hxy (hy z hz)⟩, h⟩

theorem foldl_ins_sorted (le : K → K → Bool) (hp : TotalPreorder le) (xs l : List (K × V)) (h : Sorted le l) :
    Sorted le (xs.foldl (fun a x => ins le x a) l) :=
  List.foldlRecOn xs _ h fun l hl x _ => ins_sorted le hp x l hl

theorem foldl_ins_perm (le : K → K → Bool) (xs l : List (K × V)) :
    (xs.foldl (fun a x => ins le x a) l).Perm (xs.reverse ++ l) := by
  induction xs generalizing l with
  | nil => simp
  | cons x xs ih =>
    simp only [List.foldl_cons, List.reverse_cons, List.append_assoc, List.singleton_append]
    exact (ih _).trans (List.Perm.append_left _ (ins_perm le x l))

theorem ins_stable (le : K → K → Bool) (x : K × V) (l : List (K × V)) :
    ∃ pre post, ins le x l = pre ++ x :: post ∧ l = pre ++ post ∧
      (∀ y ∈ pre, le y.1 x.1 = true) :=
  ⟨_, _, ins_eq le x l, List.takeWhile_append_dropWhile.symm, List.all_eq_true.mp List.all_takeWhile⟩

/-! ### the echelon layer refines the abstract one -/

/-- the invariant of `BTreeMap<K, Vec<V>>`: no entry with an empty vector (`nonempty`: `popLast` removes the entry with
    its last value); every value of an entry was inserted under a key the order holds equivalent to the entry's
    (`ghost`, on the ghost keys of `Ech` in `Model/TopN.lean`); the entries stand in strictly increasing key order
    (`strict`) -/
structure EchOK (le : K → K → Bool) (e : Ech K V) : Prop where
  nonempty : ∀ p ∈ e, p.2 ≠ []
  ghost : ∀ p ∈ e, ∀ q ∈ p.2, le q.1 p.1 = true ∧ le p.1 q.1 = true
  strict : e.Pairwise (fun a b => le a.1 b.1 = true ∧ le b.1 a.1 = false)

theorem echOK_nil (le : K → K → Bool) : EchOK le ([] : Ech K V) :=
  ⟨nofun, nofun, .nil⟩

theorem flatten_cons (p : K × List (K × V)) (e : Ech K V) : Ech.flatten (p :: e) = p.2 ++ Ech.flatten e := by
  simp [Ech.flatten]

theorem EchOK.above {le : K → K → Bool} {e : Ech K V} (ok : EchOK le e) (hp : TotalPreorder le) {b : K}
    (hb : ∀ p ∈ e, le b p.1 = true ∧ le p.1 b = false) : ∀ y ∈ e.flatten, le b y.1 = true ∧ le y.1 b = false := by
  intro y hy
  obtain ⟨p, hpe, hy⟩ := List.mem_flatMap.mp hy
  exact hp.lt_of_lt_of_le (hb p hpe) (ok.ghost p hpe y hy).2

/-- read on the rows: "strictly below every later row" is "strictly below every later echelon", each echelon having a
    row, with an equivalent key -/
theorem echOK_cons {le : K → K → Bool} (hp : TotalPreorder le) {p : K × List (K × V)} {e : Ech K V} :
    EchOK le (p :: e) ↔ (p.2 ≠ [] ∧ (∀ q ∈ p.2, le q.1 p.1 = true ∧ le p.1 q.1 = true) ∧
      ∀ y ∈ e.flatten, le p.1 y.1 = true ∧ le y.1 p.1 = false) ∧ EchOK le e := by
  constructor
  · intro ⟨h1, h2, h3⟩
    obtain ⟨a1, b1⟩ := List.forall_mem_cons.mp h1
    obtain ⟨a2, b2⟩ := List.forall_mem_cons.mp h2
    obtain ⟨a3, b3⟩ := List.pairwise_cons.mp h3
    exact ⟨⟨a1, a2, EchOK.above ⟨b1, b2, b3⟩ hp a3⟩, b1, b2, b3⟩
  · intro ⟨⟨a1, a2, a3⟩, b1, b2, b3⟩
    refine ⟨List.forall_mem_cons.mpr ⟨a1, b1⟩, List.forall_mem_cons.mpr ⟨a2, b2⟩, List.pairwise_cons.mpr ⟨fun p2 h2 => ?_, b3⟩⟩
    obtain ⟨q, hq⟩ := List.exists_mem_of_ne_nil _ (b1 p2 h2)
    exact hp.lt_of_lt_of_le (a3 q (List.mem_flatMap.mpr ⟨p2, h2, hq⟩)) (b2 p2 h2 q hq).1

theorem ins_append_le (le : K → K → Bool) (x : K × V) (a b : List (K × V))
    (h : ∀ y ∈ a, le y.1 x.1 = true) : ins le x (a ++ b) = a ++ ins le x b := by
  induction a with
  | nil => simp
  | cons y ys ih =>
    have hy := h y (by simp)
    simp only [List.cons_append, ins, hy, if_true]
    rw [ih (fun z hz => h z (by simp [hz]))]

theorem ins_head_gt (le : K → K → Bool) (x : K × V) (l : List (K × V))
    (h : ∀ y ∈ l, le y.1 x.1 = false) : ins le x l = x :: l := by
  cases l with
  | nil => simp [ins]
  | cons y ys => simp [ins, h y (by simp)]

theorem push_refines (le : K → K → Bool) (hp : TotalPreorder le) (k : K) (v : V) (e : Ech K V)
    (ok : EchOK le e) :
    (Ech.push le k v e).flatten = ins le (k, v) e.flatten ∧ EchOK le (Ech.push le k v e) := by
  induction e with
  | nil => exact ⟨rfl, (echOK_cons hp).mpr ⟨⟨by simp, by simp [hp.refl], nofun⟩, ok⟩⟩
  | cons p rest ih =>
    obtain ⟨k', vs⟩ := p
    obtain ⟨⟨hne, hghost, later⟩, okrest⟩ := (echOK_cons hp).mp ok
    simp only [Ech.push, flatten_cons]
    by_cases hkk' : le k k' = true
    · by_cases hk'k : le k' k = true
      · -- same echelon: behind `vs` (all ≤ k' ≤ k), before the rest (all > k' ≥ k)
        simp only [hkk', hk'k, Bool.and_self, if_true, flatten_cons, List.append_assoc]
        refine ⟨?_, (echOK_cons hp).mpr ⟨⟨by simp, ?_, later⟩, okrest⟩⟩
        · rw [ins_append_le le (k, v) vs _ (fun y hy => hp.trans _ _ _ (hghost y hy).1 hk'k),
            ins_head_gt le (k, v) _ (fun y hy => (hp.lt_of_le_of_lt hkk' (later y hy)).2)]
          rfl
        · exact List.forall_mem_append.mpr ⟨hghost, List.forall_mem_singleton.mpr ⟨hkk', hk'k⟩⟩
      · -- a new echelon in front: k < k' ≤ everything stored
        have hlt : le k k' = true ∧ le k' k = false := ⟨hkk', by simpa using hk'k⟩
        have all : ∀ y ∈ vs ++ Ech.flatten rest, le k y.1 = true ∧ le y.1 k = false :=
          List.forall_mem_append.mpr ⟨fun y h => hp.lt_of_lt_of_le hlt (hghost y h).2,
            fun y h => hp.lt_of_lt_of_le hlt (later y h).1⟩
        simp only [hkk', hlt.2, Bool.and_false, Bool.false_eq_true, if_false, if_true, flatten_cons]
        exact ⟨(ins_head_gt le (k, v) _ fun y hy => (all y hy).2).symm,
          (echOK_cons hp).mpr ⟨⟨by simp, by simp [hp.refl], by rwa [flatten_cons]⟩, ok⟩⟩
    · -- further right: behind `vs` (all ≤ k' ≤ k), then into the rest, whose rows and `k` are all > k'
      have hk'k : le k' k = true := (hp.total k k').resolve_left hkk'
      obtain ⟨ih1, ih2⟩ := ih okrest
      simp only [hkk', Bool.false_and, Bool.false_eq_true, if_false, flatten_cons]
      refine ⟨?_, (echOK_cons hp).mpr ⟨⟨hne, hghost, fun y hy => ?_⟩, ih2⟩⟩
      · rw [ins_append_le le (k, v) vs _ (fun y hy => hp.trans _ _ _ (hghost y hy).1 hk'k), ih1]
      · rcases List.mem_cons.mp ((ins_perm le _ _).mem_iff.mp (ih1 ▸ hy)) with rfl | h
        · exact ⟨hk'k, by simpa using hkk'⟩
        · exact later y h

theorem popLast_refines (le : K → K → Bool) (hp : TotalPreorder le) (e : Ech K V) (ok : EchOK le e) :
    (Ech.popLast e).flatten = e.flatten.dropLast ∧ EchOK le (Ech.popLast e) := by
  fun_induction Ech.popLast e with
  | case1 => exact ⟨rfl, ok⟩
  | case2 k vs h =>
    refine ⟨?_, echOK_nil le⟩
    show [] = (vs ++ []).dropLast
    rw [List.append_nil, List.dropLast_eq_take, Nat.sub_eq_zero_of_le h, List.take_zero]
  | case3 k vs h =>
    obtain ⟨⟨_, hghost, _⟩, _⟩ := (echOK_cons hp).mp ok
    refine ⟨?_, (echOK_cons hp).mpr ⟨⟨fun hnil => ?_, ?_, nofun⟩, echOK_nil le⟩⟩
    · show vs.dropLast ++ [] = (vs ++ []).dropLast
      rw [List.append_nil, List.append_nil]
    · have := congrArg List.length hnil
      simp only [List.length_dropLast, List.length_nil] at this
      omega
    · exact fun q hq => hghost q ((List.dropLast_sublist _).subset hq)
  | case4 p rest hne ih =>
    obtain ⟨⟨h1, h2, h3⟩, okrest⟩ := (echOK_cons hp).mp ok
    obtain ⟨ih1, ih2⟩ := ih okrest
    refine ⟨?_, (echOK_cons hp).mpr ⟨⟨h1, h2, fun y hy => h3 y ((List.dropLast_sublist _).subset (ih1 ▸ hy))⟩, ih2⟩⟩
    -- the rest is not empty, so neither are its rows
    have : Ech.flatten rest ≠ [] := by
      cases rest with
      | nil => exact (hne p.1 p.2 rfl rfl).elim
      | cons p2 rest2 =>
        rw [flatten_cons]; exact fun h => ((echOK_cons hp).mp okrest).1.1 (List.append_eq_nil_iff.mp h).1
    rw [flatten_cons, flatten_cons, ih1, List.dropLast_append_of_ne_nil this]

/-- what one `TopN::insert` does to the flattened echelons: plain stable insertion without a limit, bounded with one -/
def absInsert (le : K → K → Bool) : Option Nat → List (K × V) → K × V → List (K × V)
  | none, l, x => ins le x l
  | some n, l, x => insN le n l x

/-- the counter is the number of stored rows, so `limit < count + 1` is `n < (ins ..).length`: no bound on the counter
    is needed -/
theorem insert_refines (le : K → K → Bool) (hp : TotalPreorder le) (t : TopNState K V) (k : K) (v : V)
    (ok : EchOK le t.ech) (hc : t.count = t.ech.flatten.length) :
    (t.insert le k v).ech.flatten = absInsert le t.limit t.ech.flatten (k, v) ∧ EchOK le (t.insert le k v).ech ∧
      (t.insert le k v).count = (t.insert le k v).ech.flatten.length ∧ (t.insert le k v).limit = t.limit := by
  obtain ⟨p1, p2⟩ := push_refines le hp k v t.ech ok
  have hlen : (Ech.push le k v t.ech).flatten.length = t.count + 1 := by rw [p1, ins_length, hc]
  obtain ⟨q1, q2⟩ := popLast_refines le hp _ p2
  unfold TopNState.insert absInsert insN
  cases t.limit with
  | none => exact ⟨p1, p2, hlen.symm, rfl⟩
  | some n =>
    simp only [← p1, hlen]
    split
    · exact ⟨q1, q2, by simp [q1, hlen], rfl⟩
    · exact ⟨rfl, p2, hlen.symm, rfl⟩

theorem foldl_insert_refines (le : K → K → Bool) (hp : TotalPreorder le) (xs : List (K × V)) (t : TopNState K V)
    (ok : EchOK le t.ech) (hc : t.count = t.ech.flatten.length) :
    (xs.foldl (fun t x => t.insert le x.1 x.2) t).ech.flatten = xs.foldl (absInsert le t.limit) t.ech.flatten ∧
      EchOK le (xs.foldl (fun t x => t.insert le x.1 x.2) t).ech := by
  induction xs generalizing t with
  | nil => exact ⟨rfl, ok⟩
  | cons x xs ih =>
    obtain ⟨r1, r2, r3, r4⟩ := insert_refines le hp t x.1 x.2 ok hc
    have := ih _ r2 r3
    rwa [r1, r4] at this

end TopNL
end Fsel
