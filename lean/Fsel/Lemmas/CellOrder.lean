/-
  `cellCmp` and `groupedCmp` (D80 fix) are total preorders (`IsOrd`: mirror-symmetric and transitive): `isOrd_cellCmp`,
  `isOrd_groupedCmp`.  Rows may tie; cells tie only when they are equal, which is not proved here.  Each comparison is
  a lexicographic combination (`lex2`) of keys compared in ℤ, in ℚ and as text.  `IsOrd` is a total preorder in the
  sense that, besides mirror symmetry, `fun x y => c x y != .gt` is reflexive, transitive and total — what
  `TopNL.TotalPreorder` asks of a `Bool`-valued `≤`; the model compares sort keys the first way here and the second
  way in `Criteria`.  The two meet in the lexicographic step: `lex2` read as `≤` (`lex2_ne_gt`) is the step of
  `CriteriaL.lex_trans`, so the transitivity of a lexicographic product is argued once, there.
-/
import Fsel.Model.Walk
import Fsel.Lemmas.Text
import Fsel.Lemmas.Num

namespace Fsel
namespace CellL
open CriteriaL

/-- the mirror image of a verdict: the model's `ordRev` (`ordRev_eq_oswap`), core's `Ordering.swap` -/
def oswap : Ordering → Ordering
  | .lt => .gt | .gt => .lt | .eq => .eq

theorem ordRev_eq_oswap (o : Ordering) : ordRev o = oswap o := by cases o <;> rfl

/-- a comparison that behaves like the order of a key: mirror-symmetric, and `<` / `=` compose -/
structure IsOrd {α : Type} (c : α → α → Ordering) : Prop where
  swap : ∀ x y, c y x = oswap (c x y)
  lt_lt : ∀ x y z, c x y = .lt → c y z = .lt → c x z = .lt
  eq_eq : ∀ x y z, c x y = .eq → c y z = .eq → c x z = .eq
  eq_lt : ∀ x y z, c x y = .eq → c y z = .lt → c x z = .lt
  lt_eq : ∀ x y z, c x y = .lt → c y z = .eq → c x z = .lt

/-! ### `IsOrd`: closure under key, flip and lexicographic product -/

theorem IsOrd.refl {α : Type} {c : α → α → Ordering} (o : IsOrd c) (x : α) : c x x = .eq := by
  have h := o.swap x x
  cases hc : c x x <;> rw [hc] at h <;> simp [oswap] at h

theorem IsOrd.le_trans {α : Type} {c : α → α → Ordering} (o : IsOrd c) (x y z : α)
    (h1 : c x y ≠ .gt) (h2 : c y z ≠ .gt) : c x z ≠ .gt := by
  cases a : c x y <;> cases b : c y z
  · rw [o.lt_lt x y z a b]; nofun
  · rw [o.lt_eq x y z a b]; nofun
  · exact absurd b h2
  · rw [o.eq_lt x y z a b]; nofun
  · rw [o.eq_eq x y z a b]; nofun
  · exact absurd b h2
  all_goals exact absurd a h1

/-- with `x ≤ y` for `c x y ≠ .gt`: under mirror symmetry `<` is `≤ ∧ ¬≥` and `=` is `≤ ∧ ≥`, so the four
    compositions of `IsOrd` all follow from the transitivity of `≤` -/
theorem IsOrd.of_le_trans {α : Type} {c : α → α → Ordering} (swap : ∀ x y, c y x = oswap (c x y))
    (le_trans : ∀ x y z, c x y ≠ .gt → c y z ≠ .gt → c x z ≠ .gt) : IsOrd c := by
  have hlt : ∀ x y, c x y = .lt ↔ c x y ≠ .gt ∧ ¬ c y x ≠ .gt := by
    intro x y; rw [swap x y]; cases c x y <;> simp [oswap]
  have heq : ∀ x y, c x y = .eq ↔ c x y ≠ .gt ∧ c y x ≠ .gt := by
    intro x y; rw [swap x y]; cases c x y <;> simp [oswap]
  refine ⟨swap, ?_, ?_, ?_, ?_⟩ <;> intro x y z a b
  · rw [hlt] at a b ⊢
    exact ⟨le_trans x y z a.1 b.1, fun h => a.2 (le_trans y z x b.1 h)⟩
  · rw [heq] at a b ⊢
    exact ⟨le_trans x y z a.1 b.1, le_trans z y x b.2 a.2⟩
  · rw [heq] at a; rw [hlt] at b ⊢
    exact ⟨le_trans x y z a.1 b.1, fun h => b.2 (le_trans z x y h a.1)⟩
  · rw [hlt] at a ⊢; rw [heq] at b
    exact ⟨le_trans x y z a.1 b.1, fun h => a.2 (le_trans y z x b.1 h)⟩

theorem IsOrd.congr {α : Type} {c c' : α → α → Ordering} (h : IsOrd c') (e : ∀ x y, c x y = c' x y) : IsOrd c := by
  have : c = c' := funext fun x => funext (e x)
  rw [this]; exact h

theorem isOrd_comap {α β : Type} (c : β → β → Ordering) (f : α → β) (h : IsOrd c) : IsOrd (fun x y => c (f x) (f y)) :=
  .of_le_trans (fun _ _ => h.swap _ _) fun _ _ _ => h.le_trans _ _ _

theorem IsOrd.flip {α : Type} {c : α → α → Ordering} (h : IsOrd c) : IsOrd (fun x y => c y x) :=
  .of_le_trans (fun x y => h.swap y x) fun x y z a b => h.le_trans z y x b a

theorem isOrd_rev {α : Type} (c : α → α → Ordering) (h : IsOrd c) : IsOrd (fun x y => ordRev (c x y)) :=
  h.flip.congr fun x y => by rw [ordRev_eq_oswap, h.swap x y]

theorem isOrd_const {α : Type} : IsOrd (fun (_ _ : α) => Ordering.eq) :=
  .of_le_trans (fun _ _ => rfl) fun _ _ _ _ _ => nofun

def lex2 {α : Type} (c1 c2 : α → α → Ordering) (x y : α) : Ordering :=
  if c1 x y != .eq then c1 x y else c2 x y

theorem lex2_eq {α : Type} (c1 c2 : α → α → Ordering) (x y : α) :
    lex2 c1 c2 x y = match c1 x y with | .eq => c2 x y | o => o := by
  unfold lex2; cases c1 x y <;> rfl

/-- `lex2` read as `≤` (`x ≤ y` for `c x y ≠ .gt`) is the step `CriteriaL.lex_trans` speaks of -/
theorem lex2_ne_gt {α : Type} (c1 c2 : α → α → Ordering) (swap : ∀ x y, c1 y x = oswap (c1 x y)) (x y : α) :
    lex2 c1 c2 x y ≠ .gt ↔ c1 x y ≠ .gt ∧ (c1 y x ≠ .gt → c2 x y ≠ .gt) := by
  rw [lex2_eq, swap x y]; cases c1 x y <;> simp [oswap]

theorem isOrd_lex2 {α : Type} (c1 c2 : α → α → Ordering) (h1 : IsOrd c1) (h2 : IsOrd c2) : IsOrd (lex2 c1 c2) := by
  refine .of_le_trans (fun x y => ?_) fun x y z => ?_
  · rw [lex2_eq, lex2_eq, h1.swap x y, h2.swap x y]; cases c1 x y <;> rfl
  · simp only [lex2_ne_gt c1 c2 h1.swap]
    exact lex_trans h1.le_trans x y z (h2.le_trans x y z)

/-! ### the three orders of atoms: ℤ, ℚ, text -/

/-- `ordOfBool (x < y) (x == y)` for the strict part of a linear order `le` -/
theorem isOrd_ofLe {α : Type} [BEq α] [LawfulBEq α] (le : α → α → Prop) (lt : α → α → Bool)
    (hlt : ∀ x y, lt x y = true ↔ le x y ∧ x ≠ y) (total : ∀ x y, le x y ∨ le y x)
    (antisymm : ∀ x y, le x y → le y x → x = y) (trans : ∀ x y z, le x y → le y z → le x z) :
    IsOrd (fun x y => ordOfBool (lt x y) (x == y)) := by
  have cEq : ∀ x, ordOfBool (lt x x) (x == x) = .eq := fun x => by
    rw [Bool.eq_false_iff.mpr fun h => ((hlt x x).mp h).2 rfl, beq_self_eq_true]; rfl
  have cLt : ∀ x y, lt x y = true → ordOfBool (lt x y) (x == y) = .lt := fun x y h => by rw [h]; rfl
  have cGt : ∀ x y, lt x y = false → x ≠ y → ordOfBool (lt x y) (x == y) = .gt := fun x y h e => by
    rw [h, beq_false_of_ne e]; rfl
  have tri : ∀ x y, x = y ∨ (lt x y = true ∧ lt y x = false ∧ x ≠ y) ∨ (lt y x = true ∧ lt x y = false ∧ x ≠ y) := by
    intro x y
    by_cases e : x = y
    · exact .inl e
    · rcases total x y with h | h
      · exact .inr (.inl ⟨(hlt x y).mpr ⟨h, e⟩, Bool.eq_false_iff.mpr fun h' => e (antisymm x y h ((hlt y x).mp h').1), e⟩)
      · exact .inr (.inr ⟨(hlt y x).mpr ⟨h, Ne.symm e⟩,
          Bool.eq_false_iff.mpr fun h' => e (antisymm x y ((hlt x y).mp h').1 h), e⟩)
  have val : ∀ x y, ordOfBool (lt x y) (x == y) ≠ .gt ↔ le x y := by
    intro x y
    rcases tri x y with rfl | ⟨a, _, _⟩ | ⟨a, b, e⟩
    · rw [cEq]; exact ⟨fun _ => (total x x).elim id id, fun _ => nofun⟩
    · rw [cLt x y a]; exact ⟨fun _ => ((hlt x y).mp a).1, fun _ => nofun⟩
    · rw [cGt x y b e]; exact ⟨fun h => absurd rfl h, fun h => absurd (antisymm x y h ((hlt y x).mp a).1) e⟩
  refine .of_le_trans (fun x y => ?_) fun x y z => ?_
  · rcases tri x y with rfl | ⟨a, b, e⟩ | ⟨a, b, e⟩
    · rw [cEq]; rfl
    · rw [cLt x y a, cGt y x b (Ne.symm e)]; rfl
    · rw [cGt x y b e, cLt y x a]; rfl
  · rw [val, val, val]; exact trans x y z

/-- the test `intKeyCmp` makes on two integers, named (`intOrd`, which `compareValues` uses, is the same function
    spelled with `if`) -/
def intOrdC (m n : Int) : Ordering := ordOfBool (m < n) (m == n)

theorem isOrd_int : IsOrd intOrdC :=
  isOrd_ofLe (· ≤ ·) (fun m n => decide (m < n)) (fun _ _ => decide_eq_true_iff.trans Int.lt_iff_le_and_ne)
    Int.le_total (fun _ _ => Int.le_antisymm) (fun _ _ _ => Int.le_trans)

/-- the test `numTotalCmp` makes on two finite values, named -/
def ratC (a b : Rat) : Ordering := if a < b then .lt else if a == b then .eq else .gt

theorem isOrd_rat : IsOrd ratC :=
  (isOrd_ofLe (· ≤ ·) (fun a b : Rat => decide (a < b)) (fun _ _ => decide_eq_true_iff.trans Rat.lt_iff_le_and_ne)
    (fun _ _ => Rat.le_total) (fun _ _ => Rat.le_antisymm) (fun _ _ _ => Rat.le_trans)).congr
    fun a b => by simp only [ratC, ordOfBool, decide_eq_true_eq]

theorem isOrd_text : IsOrd cmpText :=
  isOrd_ofLe (strLe · · = true) strLt (fun x y => by simp [strLt]) strLe_total strLe_antisymm strLe_trans

/-! ### numbers, cells, rows: lexicographic combinations of keys -/

/-- `f64::total_cmp` on parsed cells is the order of (class, value): the scale of `numRank` -/
def numCls : Num → Int
  | .ninf => -1 | .fin _ _ => 0 | .inf => 1 | .nan => 2

/-- compared only where the classes tie: between two finite values — or between two NaNs or two infinities of one sign,
    where both are 0 and tie again -/
def numVal : Num → Rat
  | .fin q _ => q | _ => 0

theorem numTotalCmp_eq_lex (u v : Num) :
    numTotalCmp u v = lex2 (fun a b => intOrdC (numCls a) (numCls b)) (fun a b => ratC (numVal a) (numVal b)) u v := by
  cases u <;> cases v <;> rfl

theorem isOrd_num : IsOrd numTotalCmp :=
  (isOrd_lex2 _ _ (isOrd_comap intOrdC numCls isOrd_int) (isOrd_comap ratC numVal isOrd_rat)).congr numTotalCmp_eq_lex

theorem numTotalCmp_fin (a b : Rat) (e1 e2 : Bool) : numTotalCmp (.fin a e1) (.fin b e2) = ratC a b := rfl

def noneLast {β : Type} (o : Option β) : Int := if o.isSome then 0 else 1

theorem intKeyCmp_eq (x y : Str) : intKeyCmp x y =
    lex2 (fun a b => intOrdC (noneLast a) (noneLast b)) (fun a b => intOrdC (a.getD 0) (b.getD 0)) (parseI64? x) (parseI64? y) := by
  unfold intKeyCmp
  cases parseI64? x <;> cases parseI64? y <;> rfl

theorem isOrd_intKey : IsOrd intKeyCmp :=
  (isOrd_comap _ parseI64? (isOrd_lex2 _ _ (isOrd_comap intOrdC noneLast isOrd_int)
    (isOrd_comap intOrdC (fun a : Option Int => a.getD 0) isOrd_int))).congr intKeyCmp_eq

/-- `cellCmp` is the lexicographic order of (number before text, number, integer spelling, text) -/
def cellLex : Str → Str → Ordering :=
  lex2 (fun x y => intOrdC (noneLast (parseF64? x)) (noneLast (parseF64? y)))
    (lex2 (fun x y => numTotalCmp ((parseF64? x).getD .nan) ((parseF64? y).getD .nan)) (lex2 intKeyCmp cmpText))

theorem isOrd_cellLex : IsOrd cellLex :=
  isOrd_lex2 _ _ (isOrd_comap intOrdC _ isOrd_int) <| isOrd_lex2 _ _ (isOrd_comap numTotalCmp _ isOrd_num) <|
    isOrd_lex2 _ _ isOrd_intKey isOrd_text

theorem cellCmp_eq_lex (x y : Str) : cellCmp x y = cellLex x y := by
  cases hx : parseF64? x <;> cases hy : parseF64? y
  · -- two cells that are no numbers are no integers either, so they tie on the integer spelling as well
    simp only [cellCmp, cellLex, lex2_eq, intKeyCmp, hx, hy, NumL.parseF64_none_parseI64_none x hx,
      NumL.parseF64_none_parseI64_none y hy]
    rfl
  · simp only [cellCmp, cellLex, lex2_eq, hx, hy]; rfl
  · simp only [cellCmp, cellLex, lex2_eq, hx, hy]; rfl
  · rename_i u v
    simp only [cellCmp, cellLex, lex2_eq, hx, hy, Option.getD_some]
    cases numTotalCmp u v <;> cases intKeyCmp x y <;> rfl

theorem isOrd_cellCmp : IsOrd cellCmp := isOrd_cellLex.congr cellCmp_eq_lex

theorem cellCmp_swap (x y : Str) : cellCmp y x = oswap (cellCmp x y) := isOrd_cellCmp.swap x y

theorem cellCmp_refl (x : Str) : cellCmp x x = .eq := isOrd_cellCmp.refl x

/-- the cell `groupedCmp` takes from a row for key `i` -/
def cellAt (i : Nat) (a : List (Str × Str)) : Str := (a[i]?.map (·.2)).getD []

/-- key by key: the cell order on the key's cell, reversed for `desc`, and the remaining keys where it ties -/
theorem isOrd_groupedCmp (idxs : List Nat) (asc : List Bool) : IsOrd (groupedCmp idxs asc) := by
  induction idxs generalizing asc with
  | nil => exact isOrd_const.congr fun _ _ => rfl
  | cons i is ih =>
    cases asc with
    | nil => exact isOrd_const.congr fun _ _ => rfl
    | cons d ds =>
      have hkey := isOrd_comap cellCmp (cellAt i) isOrd_cellCmp
      cases d
      · exact (isOrd_lex2 _ _ (isOrd_rev _ hkey) (ih ds)).congr fun _ _ => rfl
      · exact (isOrd_lex2 _ _ hkey (ih ds)).congr fun _ _ => rfl

end CellL
end Fsel
