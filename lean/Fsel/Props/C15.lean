/-
  C15  Expressions follow arithmetic rules and each column is evaluated on its own.

  Model: `Parser.lean` (`parse_add_sub`/`parse_mul_div`/`parse_paren`/`parse_func_scalar`, well-founded mutual
  recursion), `Eval.lean` (`columnValue` = `get_column_expr_value` with the per-row memo `file_map`,
  `conforms`).
  Idea: parsing is `arith_parse_correct` — for EVERY derivation of the grammar
        E ::= E (+|-) T | T     T ::= T (*|/|%) F | F     F ::= atom | ( E ) | { E } | fn( E )
  parsing its token sequence yields the tree the derivation denotes (operators of one level nested to the left,
  `*`,`/`,`%` below `+`,`-`, brackets overriding) and leaves exactly the tokens that follow (Lemmas/ParseArith);
  atoms are abstract (`AtomOK`), and the `atom_*` lemmas show that numbers, columns, quoted text and their negations
  are atoms.  Evaluation: the value of an expression depends on the memo only through the display texts of its own
  sub-expressions (`column_value_local`, from the induction over the evaluator in Lemmas/Memo), so evaluating other
  columns first cannot change it.
  Not theorems: when two select-list columns share a sub-expression the second one is answered from the cache
  with the *text* of the first value; that the text round-trips to the same number is decided by the
  correspondence and by the select-list permutation oracle (it fails for booleans used in arithmetic, which
  the property's quantifier does not include).  D62 (known finding): the display text is not injective —
  `concat('x, y')` and `concat('x', 'y')` share a cache key — see `display_collision_counterexample`.
-/
import Fsel.Lemmas.ParseArith
import Fsel.Lemmas.Memo

namespace Fsel.C15
open Fsel ParseL MemoL

/-- **the expression parser implements the arithmetic grammar** -/
theorem arith_parse_correct (bs : Bool) (e : E) (h : e.WF bs) (rest : List Lexem) (hrest : StopAdd rest) :
    (parseAddSub bs (e.toks ++ rest)).res = .ok e.tree ∧ (parseAddSub bs (e.toks ++ rest)).rest = rest :=
  parse_E bs e h rest _ hrest rfl

/-! ### atoms -/

theorem atom_literal (bs : Bool) (s : Str) (hf : Field.ofStr? s = none) (hfn : Function.ofStr? s = none) :
    AtomOK bs [.raw s] (.val false s) := by
  intro r
  refine out_iff.1 ?_
  rw [List.singleton_append, parseParen_raw, leafP_raw_out, hf, hfn]

theorem atom_column (bs : Bool) (s : Str) (f : Field) (hf : Field.ofStr? s = some f) :
    AtomOK bs [.raw s] (.field false f) := by
  intro r
  refine out_iff.1 ?_
  rw [List.singleton_append, parseParen_raw, leafP_raw_out, hf]

theorem atom_quoted (bs : Bool) (s : Str) : AtomOK bs [.str s] (.val false s) := by
  intro r
  refine out_iff.1 ?_
  rw [List.singleton_append, parseParen_str, leafP_str_out]

theorem atom_negated_literal (bs : Bool) (s : Str) (hf : Field.ofStr? s = none) (hfn : Function.ofStr? s = none) :
    AtomOK bs [.arith ['-'], .raw s] (.val true s) := by
  intro r
  refine out_iff.1 ?_
  rw [List.cons_append, List.singleton_append, parseParen_minus_out, leafP_raw_out, hf, hfn]

theorem atom_negated_column (bs : Bool) (s : Str) (f : Field) (hf : Field.ofStr? s = some f) :
    AtomOK bs [.arith ['-'], .raw s] (.field true f) := by
  intro r
  refine out_iff.1 ?_
  rw [List.cons_append, List.singleton_append, parseParen_minus_out, leafP_raw_out, hf]

/-! ### instances: precedence, associativity, brackets -/

/-- `a + b * c` is `a + (b * c)` -/
theorem prec_mul_over_add (bs : Bool) (a b c : List Lexem) (x y z : Expr)
    (ha : AtomOK bs a x) (hb : AtomOK bs b y) (hc : AtomOK bs c z) (rest : List Lexem) (hrest : StopAdd rest) :
    (parseAddSub bs (a ++ .arith ['+'] :: (b ++ .arith ['*'] :: c) ++ rest)).res
      = .ok (.arith x .Add (.arith y .Multiply z)) :=
  (parse_E bs
    (.mk (.mk (.atom a x) .nil) (.cons ['+'] .Add (.mk (.atom b y) (.cons ['*'] .Multiply (.atom c z) .nil)) .nil))
    ⟨⟨ha, trivial⟩, addOp_plus, ⟨hb, mulOp_star, hc, trivial⟩, trivial⟩ rest _ hrest
    (by simp [E.toks, T.toks, F.toks, TTail.toks, ETail.toks])).1

/-- `a - b - c` is `(a - b) - c` -/
theorem left_assoc_sub (bs : Bool) (a b c : List Lexem) (x y z : Expr)
    (ha : AtomOK bs a x) (hb : AtomOK bs b y) (hc : AtomOK bs c z) (rest : List Lexem) (hrest : StopAdd rest) :
    (parseAddSub bs (a ++ .arith ['-'] :: (b ++ .arith ['-'] :: c) ++ rest)).res
      = .ok (.arith (.arith x .Subtract y) .Subtract z) :=
  (parse_E bs
    (.mk (.mk (.atom a x) .nil) (.cons ['-'] .Subtract (.mk (.atom b y) .nil) (.cons ['-'] .Subtract (.mk (.atom c z) .nil) .nil)))
    ⟨⟨ha, trivial⟩, addOp_minus, ⟨hb, trivial⟩, addOp_minus, ⟨hc, trivial⟩, trivial⟩ rest _ hrest
    (by simp [E.toks, T.toks, F.toks, TTail.toks, ETail.toks])).1

/-- `(a + b) * c` keeps the bracketed sum together -/
theorem brackets_override (bs : Bool) (a b c : List Lexem) (x y z : Expr)
    (ha : AtomOK bs a x) (hb : AtomOK bs b y) (hc : AtomOK bs c z) (rest : List Lexem) (hrest : StopAdd rest)
    (hbool : boolShorthand bs (.arith x .Add y) = .arith x .Add y) (hnot : a.head? ≠ some .not_) (hane : a ≠ []) :
    (parseAddSub bs (.open_ :: (a ++ .arith ['+'] :: b ++ [.close]) ++ .arith ['*'] :: c ++ rest)).res
      = .ok (.arith (.arith x .Add y) .Multiply z) :=
  (parse_E bs
    (.mk (.mk (.paren (.mk (.mk (.atom a x) .nil) (.cons ['+'] .Add (.mk (.atom b y) .nil) .nil)))
              (.cons ['*'] .Multiply (.atom c z) .nil)) .nil)
    ⟨⟨⟨⟨⟨ha, trivial⟩, addOp_plus, ⟨hb, trivial⟩, trivial⟩, hbool, by
        cases a with
        | nil => exact absurd rfl hane
        | cons t ts => simpa [E.toks, T.toks, F.toks, TTail.toks, ETail.toks] using hnot⟩, mulOp_star, hc, trivial⟩, trivial⟩
    rest _ hrest (by simp [E.toks, T.toks, F.toks, TTail.toks, ETail.toks])).1

/-- `fn(a) * c`: a call is a factor and its argument is parsed as an expression of its own -/
theorem call_argument (bs : Bool) (s : Str) (fn : Function) (a c : List Lexem) (x z : Expr)
    (ha : AtomOK bs a x) (hc : AtomOK bs c z) (hfld : Field.ofStr? s = none) (hfn : Function.ofStr? s = some fn)
    (hbool : boolShorthand bs x = x) (hnot : a.head? ≠ some .not_) (rest : List Lexem) (hrest : StopAdd rest) :
    (parseAddSub bs (.raw s :: .open_ :: (a ++ [.close]) ++ .arith ['*'] :: c ++ rest)).res
      = .ok (.arith (.func false fn x []) .Multiply z) :=
  (parse_E bs
    (.mk (.mk (.call s fn (.mk (.mk (.atom a x) .nil) .nil)) (.cons ['*'] .Multiply (.atom c z) .nil)) .nil)
    ⟨⟨⟨hfld, hfn, ⟨⟨ha, trivial⟩, trivial⟩, hbool, by simpa [E.toks, T.toks, F.toks, TTail.toks, ETail.toks] using hnot⟩,
      mulOp_star, hc, trivial⟩, trivial⟩
    rest _ hrest (by simp [E.toks, T.toks, F.toks, TTail.toks, ETail.toks])).1

/-- a concrete check on real tokens: `1 + 2 * 3` -/
example : (parseAddSub false [.raw ['1'], .arith ['+'], .raw ['2'], .arith ['*'], .raw ['3']]).res
    = .ok (.arith (.val false ['1']) .Add (.arith (.val false ['2']) .Multiply (.val false ['3']))) := by
  have a := atom_literal false ['1'] (by decide +kernel) (by decide +kernel)
  have b := atom_literal false ['2'] (by decide +kernel) (by decide +kernel)
  have c := atom_literal false ['3'] (by decide +kernel) (by decide +kernel)
  exact prec_mul_over_add false _ _ _ _ _ _ a b c [] trivial

/-! ### evaluation -/

/-- a leading minus on a literal: its value is the literal with the sign in front, and the memo is left alone -/
theorem leading_minus_literal (cx : EvalCtx) (e? : Option Entry) (m : Memo) (v : Str) :
    columnValue cx e? m (.val true v) = .ok (.ofSignedString v true, m) ∧ (Variant.ofSignedString v true).text = '-' :: v := by
  constructor
  · unfold columnValue; rfl
  · rfl

/-- `-column` is `0 - column` (D39 fix) -/
theorem leading_minus_column (cx : EvalCtx) (e : Entry) (f : Field) (v : Variant)
    (hv : fieldValue cx.cfg e f = .ok v) :
    ∃ m', columnValue cx (some e) [] (.field true f) = .ok (negateIf true v, m') ∧
      (negateIf true v).toFloat = (ArithOp.Subtract.calc (.ofInt 0) v).toFloat := by
  have h : columnValue cx (some e) [] (.field true f) =
      .ok (negateIf true v, Memo.insert [] (Expr.field true f).display (negateIf true v).text) := by
    unfold columnValue
    simp only [withMemo, Memo.get?, lookup, hv]
  exact ⟨_, h, by simp [negateIf, Variant.toFloat]⟩

/-- the value of `l op r` is `calc` applied to the values of `l` and `r` -/
theorem arith_value (cx : EvalCtx) (e? : Option Entry) (l r : Expr) (op : ArithOp) (lv rv : Variant) (m1 m2 : Memo)
    (hl : columnValue cx e? [] l = .ok (lv, m1)) (hr : columnValue cx e? m1 r = .ok (rv, m2)) :
    ∃ v m', columnValue cx e? [] (.arith l op r) = .ok (v, m') ∧ v.text = (op.calc lv rv).text ∧
      v.toFloat = (op.calc lv rv).toFloat := by
  have h : columnValue cx e? [] (.arith l op r) =
      .ok ({ op.calc lv rv with exact := (op.calc lv rv).exact && lv.exact && rv.exact },
           m2.insert (Expr.arith l op r).display (op.calc lv rv).text) := by
    unfold columnValue
    simp only [withMemo, Memo.get?, lookup, hl, hr]
  exact ⟨_, _, h, rfl, rfl⟩

/-- a literal never reads the memo (D61 fix) -/
theorem literal_is_itself (cx : EvalCtx) (e? : Option Entry) (m : Memo) (v : Str) :
    columnValue cx e? m (.val false v) = .ok (.ofSignedString v false, m) := by
  unfold columnValue; rfl

/-- **locality**: the value of `x` depends on the memo only through the keys of `x` itself -/
theorem column_value_local (cx : EvalCtx) (e? : Option Entry) (x : Expr) (m m' : Memo)
    (h : ∀ k ∈ keysOf x, m.get? k = m'.get? k) :
    (columnValue cx e? m x).map (·.1) = (columnValue cx e? m' x).map (·.1) :=
  (columnValue_local (· ∈ keysOf x) cx e? x m m' (fun _ hk => hk) h).map_fst

/-- **other columns do not matter**: evaluating any expression `y` first whose keys are disjoint from those of
    `x` does not change the value of `x` -/
theorem other_columns_do_not_matter (cx : EvalCtx) (e? : Option Entry) (x y : Expr) (m : Memo) (v : Variant) (m1 : Memo)
    (hy : columnValue cx e? m y = .ok (v, m1)) (hdisj : ∀ k ∈ keysOf x, k ∉ keysOf y) :
    (columnValue cx e? m1 x).map (·.1) = (columnValue cx e? m x).map (·.1) := by
  apply column_value_local
  intro k hk
  exact columnValue_frame (fun k => k ∈ keysOf y) cx e? y m (fun k hk' => hk') v m1 hy k (hdisj k hk)

/-- a WHERE comparison evaluates both operands (fresh memo each) and compares the values -/
theorem where_on_expression (cx : EvalCtx) (e : Entry) (cache : RxCache) (l r : Expr) (op : Op) (lv rv : Variant) (m1 m2 : Memo)
    (hl : columnValue cx (some e) [] l = .ok (lv, m1)) (hr : columnValue cx (some e) [] r = .ok (rv, m2)) :
    conforms cx e cache (.cmp l op r) = compareAtom cx.cfg.today cache lv op rv := by
  unfold conforms
  simp only [hl, hr]

/-- D62 (known finding): two different calls with the same display text, hence one cache key -/
theorem display_collision_counterexample :
    (Expr.func false .Concat (.val false (ofS "x, y")) []).display =
    (Expr.func false .Concat (.val false (ofS "x")) [.val false (ofS "y")]).display ∧
    (Expr.func false .Concat (.val false (ofS "x, y")) []) ≠ (Expr.func false .Concat (.val false (ofS "x")) [.val false (ofS "y")]) := by
  constructor
  · decide +kernel
  · intro h; cases h

end Fsel.C15
