/-
  C19  Archive search lists each zip member exactly once and changes nothing else.

  Model: the archive branch of `visit_dir` (`checkMembers`), `fieldValue` on `ArcInfo`; the member table of
  every zip file is snapshot input (the `zip` crate is external, trusted base).
  Idea: the member loop is part of the report step of an entry: without a streamed LIMIT it is the plain fold of
  `check_file` over the member table (`members_each_once`), it is gated by `mindepth` alone, and a member's columns are
  those of its table row (`member_*`, by evaluation of `fieldValue`).
  Not theorems: "the rows for ordinary entries are exactly those without `archives`" and ORDER BY / LIMIT uniformity
  across entries and members are decided by the correspondence and the oracle (metamorphic run without
  `archives`; member list from Python's zipfile).  So are the two clauses no theorem here states: a member's stored
  modification time, and that a corrupt, truncated or unreadable archive is skipped without losing other rows (in the
  model such a file simply has no member table).
-/
import Fsel.Lemmas.Walk

namespace Fsel.C19
open Fsel

/-- the member loop as a plain fold -/
def foldMembers (p : Plan) (e : Entry) : ResSt → List ArcInfo → Except Abort ResSt
  | st, [] => .ok st
  | st, a :: as =>
    match checkFile p st { e with arc := some a } with
    | .error x => .error x
    | .ok st' => foldMembers p e st' as

/-- when no streamed LIMIT is active (no limit, or the query is buffered: D13 fixed) the member loop is the left fold of
    `check_file` over the member table, in table order: every member examined once, none twice, none skipped -/
theorem members_each_once (p : Plan) (e : Entry) (ms : List ArcInfo) (st : ResSt)
    (h : p.q.isBuffered = true ∨ p.q.limit = 0) :
    checkMembers p st e ms = foldMembers p e st ms := by
  induction ms generalizing st with
  | nil => rfl
  | cons a as ih =>
    simp only [checkMembers, foldMembers, WalkL.noLimit_false p h st, Bool.false_eq_true, if_false]
    cases checkFile p st { e with arc := some a } with
    | error x => rfl
    | ok st' => exact ih st'

/-- **the member loop belongs to the report step, not to the descent**: what is reported for an entry — its own
    row and, for a zip archive under `archives`, its members — depends on the depth window only through the
    `mindepth` gate; `maxdepth` (which only limits descending into directories) plays no part.  So an archive on the
    last level of a `maxdepth` window lists its members like any other archive inside the window. -/
theorem members_independent_of_maxdepth (p : Plan) (rp rp' : RootParams) (lvl : Nat) (n : Node) (e : Entry) (rs : ResSt)
    (h1 : rp.minDepth = rp'.minDepth) (h2 : rp.archives = rp'.archives) :
    reportEntry p rp lvl n e rs = reportEntry p rp' lvl n e rs := by
  unfold reportEntry
  rw [h1, h2]

/-- inside the window an archive's report is its own row followed by the member loop -/
theorem archive_report (p : Plan) (rp : RootParams) (lvl : Nat) (le e : Entry) (ms : List ArcInfo) (rs : ResSt)
    (hmin : rp.minDepth = 0 ∨ rp.minDepth ≤ lvl) (harc : rp.archives = true) (hext : hasExtension e.path p.cfg.zipExts = true) :
    reportEntry p rp lvl (.leaf le (some ms)) e rs =
      match checkFile p rs e with
      | .error a => .error a
      | .ok s => checkMembers p s e ms := by
  rw [WalkL.reportEntry_inside p rp lvl _ e rs hmin]
  simp only [harc, hext, Bool.and_self, if_true]
  rfl

/-- one step of the loop, its defining equation: it stops as soon as a streamed LIMIT is reached and otherwise checks
    the next member (the same WHERE/LIMIT treatment as ordinary entries).  No statement about prefixes is made here. -/
theorem members_limit_prefix (p : Plan) (e : Entry) (a : ArcInfo) (as : List ArcInfo) (st : ResSt) :
    checkMembers p st e (a :: as) =
      if limitReached p st then .ok st
      else match checkFile p st { e with arc := some a } with
        | .error x => .error x
        | .ok st' => checkMembers p st' e as := rfl

/-- the documented columns of a member (`member_name` … `member_mode`): `[archive] member` for name and path, the
    uncompressed size, the directory flag, the stored unix mode -/
theorem member_name (cfg : Config) (e : Entry) (a : ArcInfo) :
    fieldValue cfg { e with arc := some a } .Name = .ok (.ofString (['['] ++ e.name ++ [']', ' '] ++ a.name)) := rfl

theorem member_path (cfg : Config) (e : Entry) (a : ArcInfo) :
    fieldValue cfg { e with arc := some a } .Path = .ok (.ofString (['['] ++ e.path ++ [']', ' '] ++ a.name)) := rfl

theorem member_size (cfg : Config) (e : Entry) (a : ArcInfo) :
    fieldValue cfg { e with arc := some a } .Size = .ok (.ofInt a.size) := rfl

theorem member_is_dir (cfg : Config) (e : Entry) (a : ArcInfo) :
    fieldValue cfg { e with arc := some a } .IsDir = .ok (.ofBool (endsWith a.name ['/'] || endsWith a.name ['\\'])) := rfl

theorem member_mode (cfg : Config) (e : Entry) (a : ArcInfo) (m : Nat) (h : a.mode = some m) :
    fieldValue cfg { e with arc := some a } .Mode = .ok (.ofString (formatMode m)) := by
  show Except.ok (match a.mode with | some m => Variant.ofString (formatMode m) | none => .empty .string) = _
  rw [h]

/-- columns that make no sense for a member are empty, not the archive's own value -/
theorem member_unavailable (cfg : Config) (e : Entry) (a : ArcInfo) :
    fieldValue cfg { e with arc := some a } .Inode = .ok (.empty .string) ∧
    fieldValue cfg { e with arc := some a } .Sha1 = .ok (.empty .string) := ⟨rfl, rfl⟩

end Fsel.C19
