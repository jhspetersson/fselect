/-
  `parse::<f64>` on text that starts with digits (`parseF64_digits_then`: an optional sign, a run of digits, then
  anything that starts with no digit), and what follows from it: decimal renderings of naturals, a number followed by
  a unit word, every integer literal is a float literal.
-/
import Fsel.Model.Num
import Fsel.Lemmas.Text
import Fsel.Lemmas.List

namespace Fsel
namespace NumL
open TextL ListL

theorem digit_head_ne (c : Char) (t w : Str) (hc : isDigit c = true) (hw : w.head?.any isDigit = false) :
    (lowerStr (c :: t) == w) = false := by
  rw [lowerStr, List.map_cons, lowerAscii_digit c hc]
  cases w with
  | nil => rfl
  | cons d w => exact beq_false_of_ne fun e => digit_ne c d hc hw (List.cons.inj e).1

/-- once the sign is split off, text that starts with a digit is none of the special words: it is read as an
    unsigned decimal -/
theorem parseF64_body (s : Str) (neg : Bool) (c : Char) (t : Str) (hs : splitSign s = (neg, c :: t)) (hc : isDigit c = true) :
    parseF64? s = (parseUnsignedDecimal (c :: t)).map fun r => decimalToNum neg r.1 r.2.1 r.2.2 := by
  rw [parseF64?, hs]
  simp only [digit_head_ne c t _ hc (by decide : (ofS "inf").head?.any isDigit = false),
    digit_head_ne c t _ hc (by decide : (ofS "infinity").head?.any isDigit = false),
    digit_head_ne c t _ hc (by decide : (ofS "nan").head?.any isDigit = false), Bool.or_self, Bool.false_eq_true, if_false]
  cases parseUnsignedDecimal (c :: t) <;> rfl

theorem splitSign_digit (c : Char) (t : Str) (hc : isDigit c = true) : splitSign (c :: t) = (false, c :: t) := by
  unfold splitSign
  split
  · rename_i heq; exact absurd (List.cons.inj heq).1 (digit_ne c '-' hc (by decide))
  · rename_i heq; exact absurd (List.cons.inj heq).1 (digit_ne c '+' hc (by decide))
  · rfl

theorem parseUnsignedDecimal_digits_then (ds rest : Str) (hall : ds.all isDigit = true) (hne : ds ≠ [])
    (hrest : rest.head?.any isDigit = false) :
    parseUnsignedDecimal (ds ++ rest) = (parseExponent (fracPart rest).2).map fun e =>
      (digitsVal (ds ++ (fracPart rest).1), (fracPart rest).1.length, e) := by
  obtain ⟨ht, hd⟩ := span_append isDigit ds rest hall hrest
  unfold parseUnsignedDecimal
  simp only [ht, hd, List.isEmpty_eq_false_iff.mpr hne, Bool.false_and, Bool.false_eq_true, if_false]
  cases parseExponent (fracPart rest).2 <;> rfl

/-- **`parse::<f64>` on `[sign] digits rest`**, `rest` starting with no digit: never one of the special words, always
    the decimal reading of digits, fraction and exponent -/
theorem parseF64_digits_then (s : Str) (neg : Bool) (ds rest : Str) (hs : splitSign s = (neg, ds ++ rest))
    (hall : ds.all isDigit = true) (hne : ds ≠ []) (hrest : rest.head?.any isDigit = false) :
    parseF64? s = (parseExponent (fracPart rest).2).map fun e =>
      decimalToNum neg (digitsVal (ds ++ (fracPart rest).1)) (fracPart rest).1.length e := by
  obtain ⟨c, t, rfl, hc, -⟩ := digits_first ds hall hne
  rw [parseF64_body s neg c (t ++ rest) hs hc, ← List.cons_append, parseUnsignedDecimal_digits_then _ rest hall hne hrest,
    Option.map_map]
  rfl

theorem parseF64_digits (ds rest : Str) (hall : ds.all isDigit = true) (hne : ds ≠ [])
    (hrest : rest.head?.any isDigit = false) :
    parseF64? (ds ++ rest) = (parseExponent (fracPart rest).2).map fun e =>
      decimalToNum false (digitsVal (ds ++ (fracPart rest).1)) (fracPart rest).1.length e := by
  obtain ⟨c, t, e, hc, -⟩ := digits_first ds hall hne
  exact parseF64_digits_then _ false ds rest (by rw [e, List.cons_append]; exact splitSign_digit c _ hc) hall hne hrest

/-- every `u64` is far inside the range of finite `f64` values -/
theorem u64_lt_pow (x : Nat) (h : x ≤ u64Max) : (x : Rat) < ((2 ^ 1024 : Nat) : Rat) :=
  Rat.natCast_lt_natCast.mpr (Nat.lt_of_le_of_lt h (by decide +kernel))

theorem decimalToNum_nat (n : Nat) (hn : (n : Rat) < ((2 ^ 1024 : Nat) : Rat)) :
    decimalToNum false n 0 0 = Num.mk (n : Rat) true := by
  have hq : (n : Rat) * pow10 (0 - ((0 : Nat) : Int)) = (n : Rat) := by
    rw [show pow10 (0 - ((0 : Nat) : Int)) = 1 from by simp [pow10], Rat.mul_one]
  have h2 : ¬ ((n : Rat) ≤ -((2 ^ 1024 : Nat) : Rat)) :=
    fun h => absurd (Rat.le_trans Rat.natCast_nonneg h) (by decide +kernel)
  simp only [decimalToNum, show ¬ ((0 : Int) > 400) by omega, show ¬ ((0 : Int) < -400) by omega, if_false,
    Bool.false_eq_true, hq, ge_iff_le, Rat.not_le.mpr hn, h2]

/-- `"<digits of n>".parse::<f64>()` is `n` (as a rational; exactness flag aside) -/
theorem parseF64_showNat (n : Nat) (hn : (n : Rat) < ((2 ^ 1024 : Nat) : Rat)) :
    parseF64? (showNat n) = some (Num.mk (n : Rat) true) := by
  have h := parseF64_digits (showNat n) [] (showNat_all_digits n) (showNat_ne_nil n) rfl
  simp only [List.append_nil, show fracPart [] = ([], []) from rfl, show parseExponent [] = some 0 from rfl,
    Option.map_some, digitsVal_showNat, List.length_nil] at h
  rw [h, decimalToNum_nat n hn]

theorem parseF64_plain (ds fs : Str) (hd : ds.all isDigit = true) (hne : ds ≠ []) (hfs : fs.all isDigit = true) :
    parseF64? (ds ++ '.' :: fs) = some (decimalToNum false (digitsVal (ds ++ fs)) fs.length 0) := by
  rw [parseF64_digits ds ('.' :: fs) hd hne rfl,
    show fracPart ('.' :: fs) = (fs, []) from by rw [fracPart, takeWhile_all isDigit fs hfs, dropWhile_all isDigit fs hfs]]
  rfl

theorem ratTrunc_natCast (k : Nat) : ratTrunc (k : Rat) = (k : Int) := by
  simp [ratTrunc, Rat.num_natCast, Rat.den_natCast]

/-! ### a number followed by a unit word is no float literal -/

/-- what may follow the digits so that they are no float literal: any character that is no digit, no `.` and no
    `e`/`E` (the unit words begin so).  `+` and `-` are excluded as well, which `parseF64_with_unit` does not need. -/
def unitHead (c : Char) : Bool := isDigit c == false && c != '.' && c != 'e' && c != 'E' && c != '+' && c != '-'

theorem unitHead_not_digit {c : Char} (h : unitHead c = true) : isDigit c = false := by
  simp only [unitHead, Bool.and_eq_true, beq_iff_eq] at h
  exact h.1.1.1.1.1

theorem parseF64_with_unit (n : Nat) (c : Char) (r : Str) (hc : unitHead c = true) :
    parseF64? (showNat n ++ c :: r) = none := by
  simp only [unitHead, Bool.and_eq_true, beq_iff_eq, bne_iff_ne, ne_eq] at hc
  obtain ⟨⟨⟨⟨⟨hd, hdot⟩, he⟩, hE⟩, -⟩, -⟩ := hc
  -- no `.` opens a fraction, and what follows is no exponent
  have hf : fracPart (c :: r) = ([], c :: r) := by
    unfold fracPart
    split
    · next heq => exact absurd (List.cons.inj heq).1 hdot
    · rfl
  have hx : parseExponent (c :: r) = none := by simp [parseExponent, he, hE]
  rw [parseF64_digits _ (c :: r) (showNat_all_digits n) (showNat_ne_nil n) hd, hf, hx]
  rfl

/-- **whatever parses as an `i64` parses as an `f64`** (so a cell that is no number is no integer either) -/
theorem parseF64_none_parseI64_none (x : Str) (h : parseF64? x = none) : parseI64? x = none := by
  cases hi : parseI64? x with
  | none => rfl
  | some v =>
    -- `x` is a run of digits with or without a sign, and each such form is a float literal
    have float (neg : Bool) (ds : Str) (hs : splitSign x = (neg, ds)) (hd : ds.all isDigit = true) (hne : ds ≠ []) :
        (parseF64? x).isSome = true := by
      rw [parseF64_digits_then x neg ds [] (by rw [List.append_nil]; exact hs) hd hne rfl]; rfl
    have hex : (parseF64? x).isSome = true := by
      unfold parseI64? at hi
      cases hn : parseInt? x with
      | none => rw [hn] at hi; cases hi
      | some n =>
        unfold parseInt? at hn
        split at hn
        · exact float true _ rfl (guard_some hn).2 (List.isEmpty_eq_false_iff.mp (guard_some hn).1)
        · cases hp : parseNat? x with
          | none => rw [hp] at hn; cases hn
          | some m =>
            obtain ⟨ds, hne, hd, rfl | rfl⟩ := parseNat_some x m hp
            · obtain ⟨c, t, e, hc, -⟩ := digits_first x hd hne
              exact float false x (by rw [e]; exact splitSign_digit c t hc) hd hne
            · exact float false ds rfl hd hne
    rw [h] at hex; cases hex

end NumL
end Fsel
