/-
  Facts about the functions of `Model/Size.lean`: a well-formed ladder reads `<number><unit>` through the first rung
  whose suffix ends the unit (`sizeRung_number`), `parse_filesize`'s normal form leaves a number as it is, and what
  `scale_size` does with a plain decimal number (`plainDecimal?`, `scaleSize`).
-/
import Fsel.Model.Size
import Fsel.Lemmas.Num

namespace Fsel
namespace SizeL
open TextL NumL ListL

/-- the characters of a plain decimal number -/
def numCh (c : Char) : Bool := isDigit c || c == '.'

theorem digits_numCh (ds : Str) (h : ds.all isDigit = true) : ds.all numCh = true :=
  List.all_eq_true.mpr fun c hc => by simp [numCh, List.all_eq_true.mp h c hc]

/-- what `sizeRung_number` asks of a rung: no number character in the suffix, length bound and cut equal to the
    suffix length -/
def rungWF (r : Str × Nat × Nat × Bool × Nat) : Bool :=
  r.1.all (fun c => !numCh c) && r.2.1 == r.1.length && r.2.2.1 == r.1.length

/-- rung selected for a unit: the first whose suffix ends the unit -/
def firstRung (ladder : List (Str × Nat × Nat × Bool × Nat)) (u : Str) : Option (Str × Nat × Nat × Bool × Nat) :=
  ladder.find? fun r => endsWith u r.1

theorem utf8Len_ge (s : Str) : s.length ≤ utf8Len s := by
  induction s with
  | nil => exact Nat.le_refl 0
  | cons c s ih =>
    have := c.utf8Size_pos
    simp only [utf8Len, List.map_cons, List.sum_cons, List.length_cons] at *
    omega

theorem endsWith_number (b u sfx : Str) (hb : b.all numCh = true) (hs : sfx.all (fun c => !numCh c) = true) :
    endsWith (b ++ u) sfx = endsWith u sfx := by
  apply Bool.eq_iff_iff.mpr
  simp only [endsWith, List.isSuffixOf_iff_suffix]
  refine ⟨fun ⟨s, e⟩ => ?_, fun h => h.trans (List.suffix_append b u)⟩
  rcases List.append_eq_append_iff.mp e with ⟨a, rfl, rfl⟩ | ⟨c, _, rfl⟩
  · -- `b = s ++ a`, `sfx = a ++ u`: a character of `a` would be a number character and not one
    cases a with
    | nil => exact List.suffix_refl _
    | cons x t =>
      have h1 : numCh x = true := List.all_eq_true.mp hb x (by simp)
      have h2 : (!numCh x) = true := List.all_eq_true.mp hs x (by simp)
      rw [h1] at h2; cases h2
  · exact List.suffix_append c sfx

/-- the length test passes because `String::len` is at least the number of characters (`utf8Len_ge`) -/
theorem sizeRung_number (ladder : List (Str × Nat × Nat × Bool × Nat)) (hwf : ladder.all rungWF = true)
    (b u : Str) (hb : b.all numCh = true) (hne : b ≠ [])
    (r : Str × Nat × Nat × Bool × Nat) (hr : firstRung ladder u = some r) (hru : r.1 = u) :
    sizeRung (b ++ u) ladder =
      some (if r.2.2.2.1 then (parseF64? b).map (fun v => (scaleSize b v r.2.2.2.2).1)
            else (parseU64? b).map (· * r.2.2.2.2)) := by
  induction ladder with
  | nil => cases hr
  | cons q qs ih =>
    obtain ⟨sfx, minLen, cut, isFloat, mult⟩ := q
    simp only [List.all_cons, rungWF, Bool.and_eq_true, beq_iff_eq] at hwf
    obtain ⟨⟨⟨hs, rfl⟩, rfl⟩, hqs⟩ := hwf
    simp only [firstRung, List.find?_cons] at hr
    simp only [sizeRung, endsWith_number b u sfx hb hs]
    cases hm : endsWith u sfx with
    | false =>
      rw [hm] at hr
      simp only [Bool.and_false, Bool.false_eq_true, if_false]
      exact ih hqs hr
    | true =>
      rw [hm] at hr
      cases hr
      subst hru
      have hlen : sfx.length < utf8Len (b ++ sfx) :=
        Nat.lt_of_lt_of_le (by rw [List.length_append]; exact Nat.lt_add_of_pos_left (List.length_pos_iff.mpr hne))
          (utf8Len_ge _)
      simp only [gt_iff_lt, hlen, decide_true, Bool.and_self, if_true, List.length_append, Nat.add_sub_cancel,
        List.take_left']
      cases isFloat with
      | true => cases parseF64? b <;> rfl
      | false => cases parseU64? b <;> rfl

theorem numCh_norm (c : Char) (h : numCh c = true) : lowerAscii c = c ∧ c ≠ ' ' := by
  simp only [numCh, Bool.or_eq_true, beq_iff_eq] at h
  rcases h with h | rfl
  · exact ⟨lowerAscii_digit c h, digit_ne c ' ' h (by decide)⟩
  · decide

theorem norm_number (b : Str) (hb : b.all numCh = true) : (lowerStr b).filter (· != ' ') = b := by
  have h := fun c hc => numCh_norm c (List.all_eq_true.mp hb c hc)
  rw [lowerStr, List.map_congr_left fun c hc => (h c hc).1, List.map_id',
    List.filter_eq_self.mpr fun c hc => by simpa using (h c hc).2]

/-! ### plain decimal numbers -/

theorem ne_dot_of_digit (ds : Str) (hd : ds.all isDigit = true) : ds.all (fun c => c != '.') = true :=
  List.all_eq_true.mpr fun c hc => by simpa using digit_ne c '.' (List.all_eq_true.mp hd c hc) (by decide)

/-- `scale_size`'s reading of a number that `split_once('.')` cuts into digits `ds` and digits `fs` -/
theorem plainDecimal_of (x ds fs : Str) (h1 : x.takeWhile (· != '.') = ds) (h2 : (x.dropWhile (· != '.')).drop 1 = fs)
    (hd : ds.all isDigit = true) (hne : ds ≠ []) (hfs : fs.all isDigit = true) :
    plainDecimal? x = some (digitsVal (ds ++ fs), fs.length) := by
  obtain ⟨c, t, rfl, hc, -⟩ := digits_first ds hd hne
  have hp : stripPlus (c :: t) = c :: t := by
    unfold stripPlus
    split
    · rename_i heq; exact absurd (List.cons.inj heq).1 (digit_ne c '+' hc (by decide))
    · rfl
  have hall : (c :: t ++ fs).all isDigit = true := by rw [List.all_append, hd, hfs]; rfl
  simp only [plainDecimal?, h1, h2, hp, hall, List.isEmpty_cons, Bool.false_and, Bool.not_false, Bool.and_self, if_true]

theorem plainDecimal_int (ds : Str) (hd : ds.all isDigit = true) (hne : ds ≠ []) :
    plainDecimal? ds = some (digitsVal ds, 0) := by
  have h := ne_dot_of_digit ds hd
  simpa using plainDecimal_of ds ds [] (takeWhile_all _ ds h) (by rw [dropWhile_all _ ds h]; rfl) hd hne rfl

theorem plainDecimal_frac (ds fs : Str) (hd : ds.all isDigit = true) (hne : ds ≠ []) (hfs : fs.all isDigit = true) :
    plainDecimal? (ds ++ '.' :: fs) = some (digitsVal (ds ++ fs), fs.length) := by
  obtain ⟨t1, t2⟩ := span_append (fun c => c != '.') ds ('.' :: fs) (ne_dot_of_digit ds hd) rfl
  exact plainDecimal_of _ ds fs t1 (by rw [t2]; rfl) hd hne hfs

/-- `scale_size` on a plain decimal number whose scaled digits fit `u128`: exact, rounded down, saturating -/
theorem scaleSize_plain (b : Str) (v : Num) (m d k : Nat) (hsc : sizeScaledInIntegers = true)
    (hp : plainDecimal? b = some (d, k)) (hm : 0 < m) (hk : k ≤ 38) (hfit : d * m ≤ u128Max) :
    (scaleSize b v m).1 = min (d * m / 10 ^ k) u64Max := by
  have hd : d ≤ u128Max := Nat.le_trans (Nat.le_mul_of_pos_right d hm) hfit
  simp [scaleSize, hsc, hp, hd, hk, hfit]

/-- whole numbers: `scale_size` (either way it is computed) yields the product -/
theorem scaleSize_nat (n m : Nat) (hm : 0 < m) (hfit : n * m ≤ u64Max) :
    (scaleSize (showNat n) (Num.mk (n : Rat) true) m).1 = n * m := by
  cases hs : sizeScaledInIntegers with
  | false =>
    -- the float route: the product of two naturals is the natural product, truncation leaves it, and it fits `u64`
    have h0 : ¬ (((n * m : Nat) : Int) < 0) := by omega
    have h1 : ¬ (n * m > u64Max) := by omega
    simp only [scaleSize, hs, Bool.false_eq_true, if_false, Num.mk, Num.ofNat, Num.mul, Num.toU64, ← Rat.natCast_mul,
      ratTrunc_natCast, h0, Int.toNat_natCast, h1]
  | true =>
    rw [scaleSize_plain _ _ m n 0 hs (by rw [plainDecimal_int _ (showNat_all_digits n) (showNat_ne_nil n), digitsVal_showNat])
      hm (by decide) (Nat.le_trans hfit (by decide)), Nat.pow_zero, Nat.div_one]
    exact Nat.min_eq_left hfit

end SizeL
end Fsel
