/-
  `parse_order_by` reads the key list as written: every key (positional or an expression), its direction,
  in order — nothing dropped, merged or re-attached.  `run_x` is the outcome of the loop (`iterOut`) after the token
  or item `x`, what `_step`/`_stop` are for the loops of Lemmas/ParseRun.
-/
import Fsel.Lemmas.ParseCond

namespace Fsel
namespace ParseO
open ParseL ParseC

/-- one ORDER BY key as written -/
inductive OKey where
  /-- a position in the select list: `.raw "<idx>"` -/
  | pos (s : Str) (idx : Nat) (f : Expr)
  /-- an expression of the Boolean/arithmetic grammar whose first token is a word that is no number -/
  | expr (s : Str) (tl : List Lexem) (x : X)

structure OItem where
  comma : Bool          -- written after a comma (commas are optional)
  key : OKey
  desc : Bool           -- followed by `desc` (`asc` is dropped by the lexer)

def OKey.toks : OKey → List Lexem
  | .pos s _ _ => [.raw s]
  | .expr s tl _ => .raw s :: tl

def OKey.tree : OKey → Expr
  | .pos _ _ f => f
  | .expr _ _ x => x.tree

def OKey.WF (fields : List Expr) : OKey → Prop
  | .pos s idx f => parseUsize? s = some idx ∧ idx ≠ 0 ∧ fields[idx - 1]? = some f
  | .expr s tl x => parseUsize? s = none ∧ x.toks = .raw s :: tl ∧ x.WF false

def OItem.toks (it : OItem) : List Lexem :=
  (if it.comma then [.comma] else []) ++ it.key.toks ++ (if it.desc then [.desc] else [])

/-- what may follow the key list: anything but a comma, `desc` or a word -/
def OrderStop : List Lexem → Prop
  | [] => True
  | .comma :: _ | .desc :: _ | .raw _ :: _ => False
  | _ => True

theorem setLastFalse_append (ds : List Bool) (d : Bool) : setLastFalse (ds ++ [d]) = ds ++ [false] := by
  induction ds with
  | nil => rfl
  | cons b bs ih =>
    cases hbs : bs with
    | nil => simp [setLastFalse]
    | cons c cs =>
      simp only [List.cons_append, setLastFalse]
      rw [hbs] at ih
      simpa using ih

theorem run_comma (fields : List Expr) (st : List Expr × List Bool) (r : List Lexem) :
    iterOut (orderStep fields) st (.comma :: r) = iterOut (orderStep fields) st r :=
  iterate_more rfl

theorem run_desc (fields : List Expr) (es : List Expr) (ds : List Bool) (d : Bool) (r : List Lexem) :
    iterOut (orderStep fields) (es, ds ++ [d]) (.desc :: r) = iterOut (orderStep fields) (es, ds ++ [false]) r := by
  have hne : (ds ++ [d]).isEmpty = false := by cases ds <;> rfl
  exact iterate_more (h := by simp) (by simp only [orderStep, hne, Bool.false_eq_true, if_false, setLastFalse_append])

theorem orderStep_expr (fields : List Expr) (st : List Expr × List Bool) {s : Str} {r r2 : List Lexem} {e : Expr}
    (h1 : parseUsize? s = none) (hp : (parseExpr false (.raw s :: r)).out = (.ok e, r2)) :
    ∃ h, orderStep fields st (.raw s :: r) = .more (st.1 ++ [e], st.2 ++ [true]) r2 h := by
  simp only [orderStep, h1]
  generalize parseExpr false (.raw s :: r) = q at hp ⊢
  obtain ⟨res, rst, le, pr⟩ := q
  simp only [PR.out_mk, Prod.mk.injEq] at hp
  obtain ⟨rfl, rfl⟩ := hp
  exact ⟨pr rfl (by simp), rfl⟩

theorem run_key (fields : List Expr) (key : OKey) (st : List Expr × List Bool) (r : List Lexem) (hw : key.WF fields)
    (hr : (∃ s tl x, key = .expr s tl x) → StopOr r) :
    iterOut (orderStep fields) st (key.toks ++ r) =
      iterOut (orderStep fields) (st.1 ++ [key.tree], st.2 ++ [true]) r := by
  cases key with
  | pos s idx f =>
    obtain ⟨h1, h2, h3⟩ := hw
    have hz : (idx == 0) = false := by simp [h2]
    show iterOut _ st (.raw s :: r) = iterOut _ (st.1 ++ [f], st.2 ++ [true]) r
    exact iterate_more (h := by simp) (by simp only [orderStep, h1, hz, Bool.false_eq_true, if_false, h3])
  | expr s tl x =>
    obtain ⟨h1, h2, hx⟩ := hw
    have hp := (X.reads false hx).out (hr ⟨s, tl, x, rfl⟩)
    rw [h2] at hp
    obtain ⟨h, hs⟩ := orderStep_expr fields st h1 hp
    exact iterate_more hs

theorem run_stop (fields : List Expr) (st : List Expr × List Bool) (r : List Lexem) (h : OrderStop r) :
    iterOut (orderStep fields) st r = (.ok st, r) := by
  have : orderStep fields st r = .done (.ok st) (Rest.refl r) := by
    cases r with
    | nil => rfl
    | cons t rs => cases t <;> first | rfl | (simp only [OrderStop] at h)
  exact iterate_done this

theorem run_item (fields : List Expr) (it : OItem) (es : List Expr) (ds : List Bool) (tl : List Lexem)
    (hw : it.key.WF fields)
    (hst : (∃ s tl x, it.key = .expr s tl x) → StopOr ((if it.desc then [Lexem.desc] else []) ++ tl)) :
    iterOut (orderStep fields) (es, ds) (it.toks ++ tl) =
      iterOut (orderStep fields) (es ++ [it.key.tree], ds ++ [!it.desc]) tl := by
  obtain ⟨comma, key, desc⟩ := it
  have hk := run_key fields key (es, ds) _ hw hst
  rw [show OItem.toks ⟨comma, key, desc⟩ ++ tl =
    (if comma then [Lexem.comma] else []) ++ (key.toks ++ ((if desc then [Lexem.desc] else []) ++ tl)) by
      simp [OItem.toks]]
  cases comma <;> cases desc
  · exact hk
  · exact hk.trans (run_desc fields _ ds true tl)
  · exact (run_comma fields _ _).trans hk
  · exact ((run_comma fields _ _).trans hk).trans (run_desc fields _ ds true tl)

theorem order_items (fields : List Expr) : ∀ (items : List OItem) (es : List Expr) (ds : List Bool) (rest : List Lexem),
    (∀ it ∈ items, it.key.WF fields) → StopOr rest → OrderStop rest →
    -- an expression key that is not followed by `desc` is followed by a comma (or ends the list)
    (∀ (a b : OItem) (l1 l2 : List OItem), items = l1 ++ a :: b :: l2 → (∃ s tl x, a.key = .expr s tl x) → a.desc = false → b.comma = true) →
    iterOut (orderStep fields) (es, ds) (items.flatMap OItem.toks ++ rest) =
      (.ok (es ++ items.map (·.key.tree), ds ++ items.map (fun it => !it.desc)), rest)
  | [], es, ds, rest, _, _, hos, _ => by
    simpa using run_stop fields (es, ds) rest hos
  | it :: items, es, ds, rest, hwf, hsr, hos, hsep => by
    have hst : (∃ s tl x, it.key = .expr s tl x) →
        StopOr ((if it.desc then [Lexem.desc] else []) ++ (items.flatMap OItem.toks ++ rest)) := by
      intro hk
      cases hd : it.desc with
      | true => exact stopOr_desc _
      | false =>
        cases items with
        | nil => simpa using hsr
        | cons b l2 =>
          have hb := hsep it b [] l2 rfl hk hd
          simp only [List.flatMap_cons, OItem.toks, hb, if_true, List.cons_append, List.nil_append, List.append_assoc]
          exact stopOr_comma _
    rw [List.flatMap_cons, List.append_assoc, run_item fields it es ds _ (hwf it (by simp)) hst,
      order_items fields items _ _ rest (fun x hx => hwf x (by simp [hx])) hsr hos
        (fun a b l1 l2 h => hsep a b (it :: l1) l2 (by simp [h]))]
    simp

end ParseO
end Fsel
